import SLE.Lemmas.UnifyTerm
import SLE.Lemmas.MergePacked
/-!
# C14 — unification ends with one equality-free type per variable and honours equalities

Property theorems over M5 (`SLE.Unify`, mirror of `unification::unify`) + M6 (the forest), for
every judgement set and every iteration order (`OrdersOk o`: each order function is a
permutation).  `UInv f` = forest invariant ∧ no `Equal` in any class data ∧ data only at roots.

Termination is proved for judgement sets without packed encodings.  The full statement
(`∀ infs, ∃ bound, …`) is **false** of the pinned code: a class holding a packed encoding whose
first span is typed by the class itself together with a sized non-numeric word makes progress
forever (finding D12; witness replayed on the implementation by the `unify` family).
-/
namespace SLE.C14
open SLE SLE.Unify SLE.Containers

/-- `merge` never reaches its `panic!` arms on `Equal`-free evidence (packed arms included), and
never produces an `Equal`. -/
theorem C14_merge_total (l r : TE) (p n : Nat) (hl : NoEq l = true) (hr : NoEq r = true) :
    ∃ m, Merge.merge l r p n = .ok m ∧ NoEq m.expr = true ∧ ∀ j ∈ m.judgements, NoEq j.2 = true :=
  merge_good l r p n hl hr

/-- `Equal` never enters class data: initialisation routes it to `union`. -/
theorem C14_no_equal_data (o : Orders) (ho : OrdersOk o) (vars : List Nat) (infs : Nat → List TE) :
    ∃ f, initForest o vars infs = .ok f ∧ UInv f := by
  obtain ⟨f, hf, hu, _⟩ := initForest_spec o vars infs
  exact ⟨f, hf, hu⟩

/-- A finished unification leaves every class with at most one type expression, none of them an
equality; the only way not to finish is the round budget (no panic, no forest fault). -/
theorem C14_post (o : Orders) (ho : OrdersOk o) (fuel nvars : Nat) (infs : Nat → List TE)
    (f : Forest) (n r : Nat) (h : unify o fuel nvars infs = .ok (f, n, r)) :
    UInv f ∧ ∀ k d, f.data.get k = some d → d.length ≤ 1 ∧ ∀ e ∈ d, NoEq e = true :=
  unify_post ho h

theorem C14_no_panic (o : Orders) (ho : OrdersOk o) (fuel nvars : Nat) (infs : Nat → List TE)
    (e : UFault) (h : unify o fuel nvars infs = .error e) : e = .outOfFuel :=
  (unify_spec ho fuel nvars infs).2 e h

/-- Variables declared equal resolve to the same class. -/
theorem C14_equalities (o : Orders) (ho : OrdersOk o) (fuel nvars : Nat) (infs : Nat → List TE)
    (f : Forest) (n r : Nat) (h : unify o fuel nvars infs = .ok (f, n, r)) :
    ∀ v id, v < nvars → .equal id ∈ infs v → DS.rootOf f v = DS.rootOf f id :=
  unify_equalities ho h

/-- Classes only ever merge (so equalities are transitive and never undone), and the component
equalities a round emits (two mappings, two equal-length arrays, two dynamic arrays met in one
class) are unified in the forest it produces. -/
theorem C14_components (o : Orders) (ho : OrdersOk o) (f : Forest) (hf : UInv f) (next counter : Nat) :
    ∃ acc, round o f next counter = .ok acc ∧ UInv acc.forest ∧
      (∀ a b, DS.rootOf f a = DS.rootOf f b → DS.rootOf acc.forest a = DS.rootOf acc.forest b) ∧
      ∀ p ∈ acc.eqs, DS.rootOf acc.forest p.1 = DS.rootOf acc.forest p.2 :=
  round_spec ho hf next counter

/-- Termination, the provable part: no packed encodings ⇒ done within `nvars + 2` rounds. -/
theorem C14_terminates_partial (o : Orders) (ho : OrdersOk o) (nvars : Nat) (infs : Nat → List TE)
    (h : NoPacked nvars infs) :
    ∀ fuel, nvars + 2 ≤ fuel → ∃ f n r, unify o fuel nvars infs = .ok (f, n, r) :=
  unify_ok_nopacked ho h

/-- D12 on the model: `{0 : Packed[(0,0,160)], 0 : Word(160, address)}` is still unresolved after
50 rounds (every round re-emits the word for the span, i.e. for the class itself). -/
theorem C14_terminates_fails_on_pinned :
    (match unify idOrders 50 1 (fun v => if v = 0 then [.packed [⟨0, 0, 160⟩] false, .word (some 160) .address] else []) with
     | .error .outOfFuel => true | _ => false) = true := by decide +kernel

/-! ### Non-vacuity -/
example : NoPacked 2 (fun v => if v = 0 then [.mapping 1 1, .word none .numeric] else [.equal 0]) := by
  intro v _ e he
  by_cases h : v = 0
  · simp [h] at he; rcases he with rfl | rfl <;> rfl
  · simp [h] at he; subst he; rfl


/-- Why unification need not terminate (finding D12), for every width and every non-numeric
usage: a packed encoding whose only span is the class itself, met by a word of that width, hands
the word back as new evidence for the same class and is itself unchanged — in either order. -/
theorem C14_packed_self_reference_reemits (p w : Nat) (u : WordUse) (hu : MergePacked.nonNumeric u = true) (n : Nat) :
    foldClass p [.packed [⟨p, 0, w⟩] false, .word (some w) u] n =
      .ok (.packed [⟨p, 0, w⟩] false, n, [], [(p, .word (some w) u)], []) ∧
    foldClass p [.word (some w) u, .packed [⟨p, 0, w⟩] false] n =
      .ok (.packed [⟨p, 0, w⟩] false, n, [], [(p, .word (some w) u)], []) := by
  constructor
  · simp [foldClass, MergePacked.d12_reemits p w u hu n]
  · simp [foldClass, MergePacked.d12_reemits_swapped p w u hu n]

end SLE.C14
