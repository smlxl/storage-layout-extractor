import SLE.Lemmas.ProgramModes
/-!
# C17 for the whole analysis

`Props/C17.lean` is about the machine (`VM.run`).  Here the statements are about
`Pipe.analyseProgram` (the model of `Extractor::analyze`): `strict cfg` / `perm cfg` differ only in
the permissive flag.
-/
namespace SLE.C17
open SLE SLE.SV SLE.VM SLE.Disasm SLE.Pipe SLE.ProgramModes

/-- Whenever strict mode succeeds, permissive mode returns the same analysis — the same layout. -/
theorem C17_program_strict_ok_same (h : Lift.HashCtx) (o : Unify.Orders) (cfg : Cfg) (bytes : List Nat) (vmFuel uFuel : Nat)
    (a : TC.Analysis) :
    analyseProgram h o (strict cfg) bytes vmFuel uFuel = .analysed a →
      analyseProgram h o (perm cfg) bytes vmFuel uFuel = .analysed a := by
  intro hs
  obtain ⟨code, hd, he, rfl⟩ := analysed_inv hs
  exact perm_of_clean hd fun e he' => by rw [he] at he'; cases he'

/-- Invalid jump targets alone never make the permissive analysis fail: if every error the strict
analysis lists is a jump kind, the permissive analysis type-checks the values of the very same
finished threads.  (An early exit of the machine is never a jump kind, so it is covered.) -/
theorem C17_program_permissive_tolerates_jumps (h : Lift.HashCtx) (o : Unify.Orders) (cfg : Cfg) (bytes : List Nat)
    (vmFuel uFuel : Nat) (es : List (Nat × XErr))
    (hs : analyseProgram h o (strict cfg) bytes vmFuel uFuel = .execErrors es)
    (hj : ∀ e ∈ es, e.2.isJumpKind = true) :
    ∃ code a, Disasm.disasm bytes = .ok code ∧
      analyseProgram h o (perm cfg) bytes vmFuel uFuel = .analysed a ∧
      a = TC.analyse h o uFuel
        (valuesOf (run (strict cfg) code vmFuel (initVM (strict cfg) code))) := by
  obtain ⟨code, hd, rfl, _⟩ := execErrors_inv hs
  exact ⟨code, _, hd, perm_of_clean hd hj, rfl⟩

/-- Every other error still fails the permissive analysis, with exactly the strict list minus the
jump kinds. -/
theorem C17_program_other_errors_surface (h : Lift.HashCtx) (o : Unify.Orders) (cfg : Cfg) (bytes : List Nat)
    (vmFuel uFuel : Nat) (es : List (Nat × XErr))
    (hs : analyseProgram h o (strict cfg) bytes vmFuel uFuel = .execErrors es)
    (hex : ∃ x ∈ es, x.2.isJumpKind = false) :
    analyseProgram h o (perm cfg) bytes vmFuel uFuel =
      .execErrors (es.filter (fun e => !e.2.isJumpKind)) := by
  obtain ⟨code, hd, rfl, _⟩ := execErrors_inv hs
  obtain ⟨x, hx, hnj⟩ := hex
  exact (perm_of_errs hd hx hnj).1

/-- Permissive mode never reports an error strict mode does not. -/
theorem C17_program_permissive_errors_are_strict_errors (h : Lift.HashCtx) (o : Unify.Orders) (cfg : Cfg) (bytes : List Nat)
    (vmFuel uFuel : Nat) (es' : List (Nat × XErr))
    (hp : analyseProgram h o (perm cfg) bytes vmFuel uFuel = .execErrors es') :
    ∃ es, analyseProgram h o (strict cfg) bytes vmFuel uFuel = .execErrors es ∧
      es' = es.filter (fun e => !e.2.isJumpKind) := by
  obtain ⟨code, hd, he, hne⟩ := execErrors_inv hp
  rw [errsOf_perm] at he
  refine ⟨_, analyseProgram_of_errs hd fun hnil => hne ?_, he⟩
  rw [he, hnil]
  rfl

/-- Disassembly errors do not depend on the mode. -/
theorem C17_program_disasm_errors_mode_free (h : Lift.HashCtx) (o : Unify.Orders) (cfg : Cfg) (bytes : List Nat) (vmFuel uFuel : Nat)
    (e : Disasm.DErr) :
    analyseProgram h o (strict cfg) bytes vmFuel uFuel = .disasmError e ↔
      analyseProgram h o (perm cfg) bytes vmFuel uFuel = .disasmError e := by
  cases hd : Disasm.disasm bytes with
  | error e' => rw [analyseProgram_error hd, analyseProgram_error hd]
  | ok code =>
    rw [analyseProgram_ok hd, analyseProgram_ok hd]
    constructor <;> intro hh <;> (split at hh <;> cases hh)

/-! Non-vacuity, decided by kernel evaluation in `Lemmas/ProgramModes.lean` (audited under these
names): `SLE.ProgramModes.M5_strict_jump`, `M5_perm_jump` (PUSH1 1; PUSH1 7; SSTORE; PUSH1 0; JUMP:
strict lists one jump-kind error at offset 7, permissive returns the layout with slot 7),
`M5_underflow` (a stack underflow fails both modes), `M5_disasm`. -/

end SLE.C17
