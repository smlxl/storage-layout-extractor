import SLE.Lemmas.Independence
/-!
# C11, second half — two independent fragments do not talk to each other

Over the type-checking pipeline model (`TC`, `Unify`; tied to the code by families `tc`, `unify`,
the rule and merge tables).  `vs` are the lifted values of fragment A, `ws` those of fragment B;
`Disjoint vs ws` says that no sub-tree of a `ws` value that contains an opaque value, a call-data
word or a storage slot (the only trees whose type variable is shared, `is_stable_typed`) occurs in
a `vs` value — the model-level reading of "B accesses only other slots".

What is proved, for every pair of value lists, every admissible iteration order and every budget:
registration, the sixteen rules and the initial forest of the joint program are the disjoint union
of the two separate ones up to an explicit injective renaming of type variables (`rA`, `rB`), and
the whole unification — packed encodings and fresh variables included — never puts an A-variable
and a B-variable into one class, nor a B-variable into A's evidence.  What is **not** proved is the
last step to "the layout of the joint program is the union of the layouts": that the A-part of the
joint forest goes through the same merges as A alone (it depends on the iteration orders; with
conflicts the result of a class is order-dependent, findings D11/D18).  `Props/C11Union.lean` proves
that step for word evidence; in general it is checked on whole programs by the `frag` family.
-/
namespace SLE.C11
open SLE SLE.SV SLE.TC SLE.Independence SLE.Unify SLE.Containers
open SLE.OrderFacts (sameClass evidence)

/-- Registration of the joint values: A's registered trees unchanged, B's shifted by A's counter;
the counters add up.  Company does not renumber, and does not share, anything. -/
theorem C11_frag_registration (vs ws : List SV) (hd : Disjoint vs ws) :
    (registerAll (vs ++ ws)).values
        = (registerAll vs).values ++ (registerAll ws).values.map (TV.shift (registerAll vs).next)
      ∧ (registerAll (vs ++ ws)).next = (registerAll vs).next + (registerAll ws).next :=
  I1_registration vs ws hd

/-- The judgements of the joint program are A's and B's judgements, each under its renaming. -/
theorem C11_frag_judgements (vs ws : List SV) (hd : Disjoint vs ws) :
    (inferAll (registerAll (vs ++ ws))).judgements
        = (inferAll (registerAll vs)).judgements.map (mapJ (rhoA (registerAll vs).next (registerAll ws).next))
          ++ (inferAll (registerAll ws)).judgements.map
              (mapJ (rhoB (registerAll vs).next (registerAll ws).next
                ((inferAll (registerAll vs)).next - (registerAll vs).next)))
      ∧ (inferAll (registerAll (vs ++ ws))).next
        = (inferAll (registerAll vs)).next + (inferAll (registerAll ws)).next :=
  I2_rules vs ws hd

/-- The two renamings are injective, have disjoint images and cover the joint variables. -/
theorem C11_frag_renamings (vs ws : List SV) :
    Function.Injective (rA vs ws) ∧ Function.Injective (rB vs ws) ∧
    (∀ a b, a < nvarsOf vs → rA vs ws a ≠ rB vs ws b) :=
  ⟨rA_injective vs ws, rB_injective vs ws, fun a b ha => rA_ne_rB vs ws a b ha⟩

/-- The forest unification starts from: no class mixes the fragments; classes and evidence of an
A-class are the image of A analysed alone (and the same for B) — whatever the three orders. -/
theorem C11_frag_initial_forest {o oA oB : Unify.Orders} (ho : Unify.OrdersOk o) (hoA : Unify.OrdersOk oA)
    (hoB : Unify.OrdersOk oB) (vs ws : List SV) (hd : Disjoint vs ws) :
    ∃ f fA fB,
      Unify.initForest o (List.range (nvarsOf (vs ++ ws))) (infOf (vs ++ ws)) = .ok f ∧
      Unify.initForest oA (List.range (nvarsOf vs)) (infOf vs) = .ok fA ∧
      Unify.initForest oB (List.range (nvarsOf ws)) (infOf ws) = .ok fB ∧
      (∀ a b, a < nvarsOf vs → b < nvarsOf ws → ¬ sameClass f (rA vs ws a) (rB vs ws b)) ∧
      (∀ a a', a < nvarsOf vs → a' < nvarsOf vs →
        (sameClass f (rA vs ws a) (rA vs ws a') ↔ sameClass fA a a')) ∧
      (∀ a, a < nvarsOf vs → ∀ e,
        e ∈ evidence f (rA vs ws a) ↔ ∃ e', e' ∈ evidence fA a ∧ e = mapTE (rA vs ws) e') ∧
      (∀ b b', b < nvarsOf ws → b' < nvarsOf ws →
        (sameClass f (rB vs ws b) (rB vs ws b') ↔ sameClass fB b b')) ∧
      (∀ b, b < nvarsOf ws → ∀ e,
        e ∈ evidence f (rB vs ws b) ↔ ∃ e', e' ∈ evidence fB b ∧ e = mapTE (rB vs ws) e') :=
  I3_initial_forest ho hoA hoB vs ws hd

/-- `unify` of the joint program is `unify` on exactly that forest. -/
theorem C11_frag_unify_starts_there (o : Unify.Orders) (fuel : Nat) (us : List SV) :
    Unify.unify o fuel (nvarsOf us) (infOf us)
      = (match Unify.initForest o (List.range (nvarsOf us)) (infOf us) with
         | .error e => .error e
         | .ok f => Unify.unifyLoop o fuel f (nvarsOf us) 0 0) :=
  unify_initForest o fuel us

/-- After the whole unification of the joint program the forest is still separated: a predicate
`U` that is "A-side" on the registered variables is constant on classes, and the evidence of a class
mentions only variables of its own side (fresh variables join the side that allocated them). -/
theorem C11_frag_unify_separated {o : Orders} (ho : OrdersOk o) (vs ws : List SV) (hd : Disjoint vs ws)
    {fuel : Nat} {f : Forest} {n r : Nat}
    (h : unify o fuel (nvarsOf (vs ++ ws)) (infOf (vs ++ ws)) = .ok (f, n, r)) :
    ∃ U, (∀ x, x < nvarsOf (vs ++ ws) → (U x ↔ InA vs ws x)) ∧ Sep U n f ∧ nvarsOf (vs ++ ws) ≤ n ∧
      UInv f :=
  I4_unify_separated ho vs ws hd h

/-- … in particular no type information flows between the fragments: an A-variable and a
B-variable never end in one class. -/
theorem C11_frag_no_crosstalk {o : Orders} (ho : OrdersOk o) (vs ws : List SV) (hd : Disjoint vs ws)
    {fuel : Nat} {f : Forest} {n r : Nat}
    (h : unify o fuel (nvarsOf (vs ++ ws)) (infOf (vs ++ ws)) = .ok (f, n, r))
    {a b : Nat} (ha : a < nvarsOf vs) (hb : b < nvarsOf ws) :
    DS.rootOf f (rA vs ws a) ≠ DS.rootOf f (rB vs ws b) :=
  I4_no_crosstalk ho vs ws hd h ha hb

/-- Once one side's classes are resolved (at most one piece of evidence each), the remaining
rounds — which may still be working on the other side — leave its classes and evidence as they are. -/
theorem C11_frag_resolved_side_is_stable {o : Orders} (ho : OrdersOk o) (fuel : Nat) {f : Forest} (hu : UInv f)
    {U0 : Nat → Prop} {next counter rounds : Nat} {f' : Forest} {n r : Nat} (hs : Sep U0 next f)
    (hA : ∀ k d, U0 k → f.data.get k = some d → d.length ≤ 1)
    (hr : unifyLoop o fuel f next counter rounds = .ok (f', n, r)) :
    (∀ a, U0 a → a < next → DS.rootOf f' a = DS.rootOf f a) ∧
      (∀ k, U0 k → k < next → DS.dataAt setM f' k = DS.dataAt setM f k) :=
  unifyLoop_frame ho fuel hu hs hA hr

/-! ### Non-vacuity: two writes to different slots with different values are `Disjoint`; a shared
opaque value is not, and then registration does share (so the hypothesis is needed). -/
example : Disjoint
    [.node .storageWrite [] [.node .storageSlot [] [.node .knownData [0] [] 1] 2, .node .value [7] [] 1] 4]
    [.node .storageWrite [] [.node .storageSlot [] [.node .knownData [1] [] 1] 2, .node .value [8] [] 1] 4] :=
  disjoint_of_disjointB (by decide)

example :
    let v : SV := .node .value [7] [] 1
    (registerAll ([v] ++ [v])).next ≠ (registerAll [v]).next + (registerAll [v]).next := by
  decide

end SLE.C11
