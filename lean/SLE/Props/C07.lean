import SLE.Lemmas.EvmSim
import SLE.Gen.OpcodeTemplates
import SLE.Lemmas.MachineFacts
import SLE.Lemmas.PathSim
import SLE.Lemmas.LitInv
/-!
# C07 — every explored path computes what a concrete EVM computes on that path

Two machines: the model of the symbolic machine's data effects (`VM.execOp`, tied to the code by
families `vm` / `evm` and by the regenerated template table) and an independent concrete EVM
(`SLE/Spec/EVM.lean`, written from the specification over naturals modulo 2^256).  `evalSV` is
the concrete value of a constants-only tree, computed with the reference operators.
`Rel d s`: stacks have equal depth and every evaluable entry evaluates to the EVM's entry; for
every literal key the evaluable written generations are the EVM's writes to that key, in order;
every constant memory offset holds, if evaluable, the EVM's word.
-/
namespace SLE.C07
open SLE SLE.SV SLE.VM SLE.EvalC SLE.EvmSim

/-- The operator templates the model executes are the ones the code builds (regenerated from the
running opcodes on every run, decided by the kernel). -/
theorem C07_templates : SLE.Gen.opcodeTemplates = SLE.VM.opcodeTemplates := by decide +kernel

/-- The 19 binary ALU opcodes without recorded defects: for all operand values the node pushed
evaluates — whenever it is evaluable, and always when the size limit does not cull it — to the
EVM's result (operand order included: SUB, DIV, LT, SHL, … are not symmetric). -/
theorem C07_alu_correct (b : Nat) (hb : b ∈ aluOk) (c : Ctx) (ctr : Nat) (a0 a1 : SV) (x y : Nat)
    (h0 : evalSV a0 = some x) (h1 : evalSV a1 = some y) (tpl : SV)
    (ht : templateOf b = some (2, tpl)) :
    (∀ r, evalSV (instantiate c [a0, a1] tpl ctr).1 = some r →
        some r = (EVM.binOp {} b).map (fun f => f x y)) ∧
    (a0.recSize + a1.recSize + 1 ≤ c.cfg.valueLimit →
        evalSV (instantiate c [a0, a1] tpl ctr).1 = (EVM.binOp {} b).map (fun f => f x y)) := by
  obtain ⟨k, f, hk⟩ := aluSpec hb
  rw [hk.tpl] at ht
  cases ht
  rw [hk.op]
  have := hk.correct c ctr a0 a1 x y h0 h1
  exact ⟨fun r hr => congrArg some (this.1 r hr), this.2⟩

theorem C07_unary_correct (b : Nat) (hb : b = 0x15 ∨ b = 0x19) (c : Ctx) (ctr : Nat) (a0 : SV) (x : Nat)
    (h0 : evalSV a0 = some x) (tpl : SV) (ht : templateOf b = some (1, tpl)) :
    (∀ r, evalSV (instantiate c [a0] tpl ctr).1 = some r →
        r = (if b = 0x15 then EVM.iszero x else EVM.not x)) ∧
    (a0.recSize + 1 ≤ c.cfg.valueLimit →
        evalSV (instantiate c [a0] tpl ctr).1 = some (if b = 0x15 then EVM.iszero x else EVM.not x)) := by
  rcases hb with rfl | rfl
  · rw [unSpec_iszero.tpl] at ht
    cases ht
    exact unSpec_iszero.correct c ctr a0 x h0
  · rw [unSpec_not.tpl] at ht
    cases ht
    exact unSpec_not.correct c ctr a0 x h0

/-- DUPn copies entry n-1 and SWAPn exchanges entries 0 and n, for every n and every stack; the
model fails exactly when the EVM under- or overflows. -/
theorem C07_dup (c : Ctx) (code : List Disasm.Instr) (b : Nat) (d : TData) (ctr : Nat) (hb : 0x80 ≤ b ∧ b ≤ 0x8f) :
    StackSim (execOp c code (.op b) d ctr) (refDup (b - 0x80) (d.stack.map evalSV)) := by
  rw [execOp_dup c code b d ctr hb]
  unfold refDup
  rw [List.getElem?_map]
  cases d.stack[b - 0x80]? with
  | none => rfl
  | some v => exact pushOut_sim d ctr v
theorem C07_swap (c : Ctx) (code : List Disasm.Instr) (b : Nat) (d : TData) (ctr : Nat) (hb : 0x90 ≤ b ∧ b ≤ 0x9f) :
    StackSim (execOp c code (.op b) d ctr) (refSwap (b - 0x8f) (d.stack.map evalSV)) := by
  rw [execOp_swap c code b d ctr hb]
  unfold refSwap
  rw [List.getElem?_map]
  cases hs : d.stack with
  | nil => rfl
  | cons top rest =>
    cases hv : (top :: rest)[b - 0x8f]? with
    | none => simp [StackSim, fail]
    | some v => simp [StackSim, List.map_set]

/-- Storage keeps per-key generations: a store appends, a load returns the latest, other keys are
untouched, a fresh key reads as zero. -/
theorem C07_sstore_appends (d : TData) (w : Word) (v : SV) :
    gensK (stStore d (mkKnown w) v) (mkKnown w) = gensK d (mkKnown w) ++ [v] := by
  rw [stStore_known d _ v (isKnownKey_mkKnown w)]
  simp only [gensK]
  rw [lookupSV_update_same]; rfl
theorem C07_sload_latest (d : TData) (w : Word) (v : SV) :
    evalSV (stLoad (stStore d (mkKnown w) v) (mkKnown w)).1 = evalSV v := by
  rw [stLoad_known_fst _ _ (isKnownKey_mkKnown w), stStore_known d _ v (isKnownKey_mkKnown w)]
  simp only []
  rw [lookupSV_update_same]
  exact eval_loadResult _ _ (evalSV_mkKnown w) _ _
theorem C07_sload_other (d : TData) (w w' : Word) (v : SV) (hne : w ≠ w') :
    (stLoad (stStore d (mkKnown w) v) (mkKnown w')).1 = (stLoad d (mkKnown w')).1 := by
  rw [stLoad_known_fst _ _ (isKnownKey_mkKnown w'), stLoad_known_fst _ _ (isKnownKey_mkKnown w'),
    stStore_known d _ v (isKnownKey_mkKnown w)]
  simp only []
  rw [lookupSV_update_other _ _ _ _ (fun h => hne (mkKnown_inj h))]
theorem C07_sload_fresh (d : TData) (w : Word) (hf : lookupSV d.stK (mkKnown w) = none) :
    evalSV (stLoad d (mkKnown w)).1 = some 0 := by
  rw [stLoad_known_fst _ _ (isKnownKey_mkKnown w), hf]
  simp [loadResult, buildNoLimit, rebuild, SV.kind, evalSV, EvalC.evalList, mkKnown]

/-- One instruction: the relation between the symbolic thread state and the concrete EVM state is
preserved by PUSHn, DUPn, SWAPn, POP, PC, CODESIZE, ISZERO, NOT, the 19 binary ALU opcodes, and by
SLOAD/SSTORE with a literal key and MLOAD/MSTORE with a literal offset below 2^64; the model
reports an error exactly when the EVM under- or overflows.  (`_partial`: SIGNEXTEND, ADDMOD,
MULMOD, BYTE and computed keys are excluded — see the negative results below; control flow is
C08's.) -/
theorem C07_step_sim_partial (c : Ctx) (code : List Disasm.Instr) (ins : Disasm.Instr) (d : TData)
    (ctr : Nat) (s : EVM.CS) (hR : Rel d s) (hside : Side ins d) :
    StepSim (execOp c code ins d ctr) (refStep (c.ip % 2 ^ 256) (c.codeLen % 2 ^ 256) ins s) :=
  step_sim_partial c code ins d ctr s hR hside

/-- … from related initial states … -/
theorem C07_rel_init : Rel {} {} := rel_init

/-- … and `refStep` is literally one unfolding of the reference machine's path enumeration. -/
theorem C07_refStep_is_explore (code : Array Nat) (data : List Nat) (fuel pc : Nat) (s0 : EVM.CS) (b : Nat)
    (hpc : pc < code.size) (hb : code[pc]! = b) (hs : b ∈ scopeOps ∨ (0x80 ≤ b ∧ b ≤ 0x9f)) :
    EVM.explore {} code data (fuel + 1) pc s0 =
      exploreAfter code data fuel (pc + 1) { s0 with visited := s0.visited ++ [pc] }
        (refStep pc code.size (.op b) { s0 with visited := s0.visited ++ [pc] }) :=
  explore_refStep code data fuel pc s0 b hpc hb hs

/-! ### The property is false of the pinned code at four opcodes (witnesses; known findings) -/

/-- SIGNEXTEND records its operands in the opposite order (pinned by the unit test
`opcode::arithmetic::test::sign_extend_manipulates_stack`). -/
theorem C07_signextend_fails_on_pinned :
    ∃ x y a0 a1 c ctr tpl, evalSV a0 = some x ∧ evalSV a1 = some y ∧
      templateOf 0x0b = some (2, tpl) ∧
      evalSV (instantiate c [a0, a1] tpl ctr).1 ≠ some (EVM.signextend x y) := by
  refine ⟨0, 0xff, mkKnown 0, mkKnown 0xff, bigCtx, 0, _, ?_, ?_, templateOf_signextend, ?_⟩
  · simp [mkKnown, evalSV]
  · simp [mkKnown, evalSV]
  · simp [instantiate, instantiate.go, arg, build, SV.mk, childSize, mkKnown, recSize, bigCtx,
      evalSV, EvalC.evalList]
    decide

/-- ADDMOD / MULMOD are recorded as `(a + b) mod n` / `(a * b) mod n` over 256-bit wrap-around. -/
theorem C07_addmod_fails_on_pinned :
    ∃ x y n a0 a1 a2 c ctr tpl, evalSV a0 = some x ∧ evalSV a1 = some y ∧ evalSV a2 = some n ∧
      templateOf 0x08 = some (3, tpl) ∧
      evalSV (instantiate c [a0, a1, a2] tpl ctr).1 ≠ (EVM.terOp {} 0x08).map (fun f => f x y n) := by
  refine ⟨2 ^ 256 - 1, 1, 3, .node .knownData [2 ^ 256 - 1] [] 1, mkKnown 1, mkKnown 3, bigCtx, 0, _,
    ?_, ?_, ?_, templateOf_addmod, ?_⟩
  · simp [evalSV]
  · simp [mkKnown, evalSV]
  · simp [mkKnown, evalSV]
  · simp [instantiate, instantiate.go, arg, build, SV.mk, childSize, mkKnown, recSize, bigCtx,
      evalSV, EvalC.evalList, EVM.terOp]
    decide
theorem C07_mulmod_fails_on_pinned :
    ∃ x y n a0 a1 a2 c ctr tpl, evalSV a0 = some x ∧ evalSV a1 = some y ∧ evalSV a2 = some n ∧
      templateOf 0x09 = some (3, tpl) ∧
      evalSV (instantiate c [a0, a1, a2] tpl ctr).1 ≠ (EVM.terOp {} 0x09).map (fun f => f x y n) := by
  refine ⟨2 ^ 255, 2, 3, .node .knownData [2 ^ 255] [] 1, mkKnown 2, mkKnown 3, bigCtx, 0, _,
    ?_, ?_, ?_, templateOf_mulmod, ?_⟩
  · simp [evalSV]
  · simp [mkKnown, evalSV]
  · simp [mkKnown, evalSV]
  · simp [instantiate, instantiate.go, arg, build, SV.mk, childSize, mkKnown, recSize, bigCtx,
      evalSV, EvalC.evalList, EVM.terOp]
    decide

/-- BYTE(i, x) is recorded as `(x >> (248 - 8 i)) & 0xff`, wrong once `8 i` wraps (i ≥ 2^253) … -/
theorem C07_byte_fails_on_pinned :
    ∃ i x a0 a1 c ctr tpl, evalSV a0 = some i ∧ evalSV a1 = some x ∧
      templateOf 0x1a = some (2, tpl) ∧
      evalSV (instantiate c [a0, a1] tpl ctr).1 ≠ (EVM.binOp {} 0x1a).map (fun f => f i x) := by
  refine ⟨2 ^ 253, 2 ^ 255, .node .knownData [2 ^ 253] [] 1, .node .knownData [2 ^ 255] [] 1, bigCtx, 0, _,
    ?_, ?_, templateOf_byte, ?_⟩
  · simp [evalSV]
  · simp [evalSV]
  · simp [byteTpl, instantiate, instantiate.go, arg, build, SV.mk, childSize, recSize, bigCtx,
      evalSV, EvalC.evalList, EVM.binOp]
    decide

/-- … and right below that. -/
theorem C07_byte_correct_partial (i x : Nat) (hi : i < 2 ^ 253) (c : Ctx) (ctr : Nat) (a0 a1 : SV)
    (h0 : evalSV a0 = some i) (h1 : evalSV a1 = some x) (tpl : SV) (ht : templateOf 0x1a = some (2, tpl)) :
    (∀ r, evalSV (instantiate c [a0, a1] tpl ctr).1 = some r → some r = (EVM.binOp {} 0x1a).map (fun f => f i x)) ∧
    (a0.recSize + a1.recSize + 7 ≤ c.cfg.valueLimit →
      evalSV (instantiate c [a0, a1] tpl ctr).1 = (EVM.binOp {} 0x1a).map (fun f => f i x)) :=
  byte_template_correct_partial i x hi c ctr a0 a1 h0 h1 tpl ht

/-- Memory cells are keyed by the offset truncated to 64 bits: offsets 0 and 2^64 alias. -/
theorem C07_memory_offsets_alias_on_pinned :
    ∃ d off off' v w w', isKnown (SV.fold off) = some w ∧ isKnown (SV.fold off') = some w' ∧ w ≠ w' ∧
      (memLoad (memStore d off v true) off').1 ≠ (memLoad d off').1 := by
  have h0 := isKnown_fold_mkKnown 0#256
  have h1 := isKnown_fold_mkKnown (BitVec.ofNat 256 (2 ^ 64))
  refine ⟨{}, mkKnown 0#256, mkKnown (BitVec.ofNat 256 (2 ^ 64)), mkKnown 7#256, 0#256,
    BitVec.ofNat 256 (2 ^ 64), h0, h1, by decide, ?_⟩
  rw [mload_after_mstore_usize {} _ _ _ true _ _ h0 h1 (by decide), memLoad_const _ _ _ h1, memGetC_fst]
  intro h
  exact absurd (mkKnown_inj h) (by decide)


/-! ### Paths: a step touches only the running thread, and a storage history only grows -/

/-- One step of the machine leaves every other queued or finished thread exactly as it was: writes
made by one path after a branch cannot show up in a sibling path. -/
theorem C07_step_touches_head_only (cfg : Cfg) (code : List Disasm.Instr) (s : VMS) :
    ∀ th ∈ s.queue.tail ++ s.stored, th ∈ (step cfg code s).queue ++ (step cfg code s).stored :=
  MachineFacts.step_touches_head_only cfg code s

/-- A storage history is append-only along a path: what was written before a branch is in both
continuations, in order. -/
theorem C07_history_append_only (c : Ctx) (code : List Disasm.Instr) (ins : Disasm.Instr)
    (d : TData) (ctr : Nat) (k : SV) :
    MachineFacts.gens d k <+: MachineFacts.gens (execOp c code ins d ctr).d k :=
  MachineFacts.execOp_storage_monotone c code ins d ctr k


/-! ### Whole paths -/

/-- Every thread the machine still runs stands, with related data, at a configuration the
reference EVM reaches on some path; every finished thread's data is related to a
reference-reachable state up to the operands its last (halting or failing) instruction had
already popped. For every program of the property's instruction subset whose keys, offsets and
jump targets are pushed immediately before use, every configuration with a positive size limit,
every number of iterations. -/
theorem C07_path_sim_queued {bytes : List Nat} {code : List Disasm.Instr}
    (H : PathSim.Prog bytes code) (hsc : PathSim.InScope bytes) (hg : PathSim.PushGuarded code)
    (cfg : Cfg) (hlim : 1 ≤ cfg.valueLimit) (s : VMS) (hs : PathSim.MReach cfg code s) :
    ∀ t ∈ s.queue, ∀ ins, code[t.ip]? = some ins → ins ≠ .nop →
      ∃ cs, PathSim.RReach (PathSim.arr bytes) (PathSim.dat bytes) (t.ip, cs) ∧ Rel t.d cs :=
  PathSim.queued_state_at_instruction H hsc cfg (PathSim.sideOK_of_guarded H hg cfg hlim) s hs

theorem C07_path_sim_stored_partial {bytes : List Nat} {code : List Disasm.Instr}
    (H : PathSim.Prog bytes code) (hsc : PathSim.InScope bytes) (hg : PathSim.PushGuarded code)
    (cfg : Cfg) (hlim : 1 ≤ cfg.valueLimit) (fuel : Nat) :
    ∀ t ∈ (run cfg code fuel (initVM cfg code)).stored,
      ∃ pc cs k, PathSim.RReach (PathSim.arr bytes) (PathSim.dat bytes) (pc, cs) ∧ Rel t.d (PathSim.dropK k cs) :=
  PathSim.stored_state_matches_a_path_guarded H hsc hg cfg hlim fuel

/-- Both continuations of a JUMPI are simulated: the fall-through always, the jump when the
target is valid — with the same popped data on both sides. -/
theorem C07_jumpi_both_ways {bytes : List Nat} {code : List Disasm.Instr} (H : PathSim.Prog bytes code)
    {c : Ctx} {d : TData} {ctr : Nat} {cs : EVM.CS}
    (hi : code[c.ip]? = some (.op 0x57)) (hR : Rel d cs)
    (hT : ∀ k r, d.stack = k :: r → PathSim.TargetOK k)
    (he : (execOp c code (.op 0x57) d ctr).err = none) :
    ∃ cs2, PathSim.RStep (PathSim.arr bytes) (PathSim.dat bytes) (c.ip, cs) (c.ip + 1, cs2) ∧
      Rel (execOp c code (.op 0x57) d ctr).d cs2 ∧
      ∀ t, (execOp c code (.op 0x57) d ctr).forkTo = some t →
        PathSim.RStep (PathSim.arr bytes) (PathSim.dat bytes) (c.ip, cs) (t, cs2) ∧
        Rel { (execOp c code (.op 0x57) d ctr).d with forkPoint := c.ip } cs2 :=
  PathSim.jumpi_sim_partial H hi hR hT he


/-- The path simulation with computed jump targets (only keys and offsets literal). -/
theorem C07_path_sim_stored_keys_partial {bytes : List Nat} {code : List Disasm.Instr}
    (H : PathSim.Prog bytes code) (hsc : PathSim.InScope bytes) (hk : LitInv.KeysLiteral code)
    (cfg : Cfg) (hlim : 1 ≤ cfg.valueLimit) (fuel : Nat) :
    ∀ t ∈ (run cfg code fuel (initVM cfg code)).stored,
      ∃ pc cs k, PathSim.RReach (PathSim.arr bytes) (PathSim.dat bytes) (pc, cs) ∧ Rel t.d (PathSim.dropK k cs) :=
  LitInv.stored_state_matches_a_path_keys H hsc hk cfg hlim fuel

end SLE.C07
