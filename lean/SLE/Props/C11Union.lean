import SLE.Lemmas.FragUnion
/-!
# C11, the layout-union equality — proved for fragments whose evidence is word evidence

`Props/C11Frag.lean` proves that unification keeps two independent fragments separated; the last
step — the layout of the joint program is the union of the two layouts — needs the A-part of the
joint run to resolve like A alone, which in general depends on the iteration order.  For word
evidence (words of any width and usage, `any`, equalities: what plain words and addresses produce)
`UnifyJoin` gives the result of unification in closed form, and the step closes: for every three
iteration orders and every three budgets, whenever the three analyses return layouts, the joint
layout is exactly `buildLayout (lA ++ lB)` — the sorted union — and it exists whenever the two
separate ones do.  No order-freeness hypothesis is needed: word evidence has no absorbing
constructor, so even a contradictory class resolves to the same conflict in every order.
Fragments whose evidence contains mappings, arrays or packed encodings remain with the `frag` family.
-/
namespace SLE.C11
open SLE SLE.SV SLE.TC SLE.Containers SLE.Unify SLE.Merge SLE.MergeLaws SLE.Layout SLE.Join SLE.OrderFacts
open SLE.Independence SLE.UnifyJoin SLE.FragUnion
open SLE.Rename (analyseLifted)

/-- Word-only-ness of the joint judgement set passes to each fragment alone. -/
theorem C11_union_word_only_splits (vs ws : List SV) (hd : Disjoint vs ws)
    (hw : WordOnly (infOf (vs ++ ws)) (nvarsOf (vs ++ ws))) :
    WordOnly (infOf vs) (nvarsOf vs) ∧ WordOnly (infOf ws) (nvarsOf ws) :=
  ⟨(frag_left vs ws hd).wordOnly hw, (frag_right vs ws hd).wordOnly hw⟩

/-- Every A-variable resolves in the joint run to exactly what it resolves to in A alone
(whatever the orders and budgets of the two runs) … -/
theorem C11_union_types_unchanged {o oA : Orders} (ho : OrdersOk o) (hoA : OrdersOk oA) (vs ws : List SV)
    (hd : Disjoint vs ws) (hw : WordOnly (infOf (vs ++ ws)) (nvarsOf (vs ++ ws)))
    {fuel fuelA : Nat} {f fA : Forest} {n r nA rA' : Nat}
    (h : unify o fuel (nvarsOf (vs ++ ws)) (infOf (vs ++ ws)) = .ok (f, n, r))
    (hA : unify oA fuelA (nvarsOf vs) (infOf vs) = .ok (fA, nA, rA'))
    {a : Nat} (ha : a < nvarsOf vs) :
    typeOfIn f (rA vs ws a) = typeOfIn fA a :=
  (frag_left vs ws hd).typeOfIn_eq hw ho hoA h hA ha

/-- … **the layout of the joint program is the union of the separate layouts** … -/
theorem C11_union_layout {o oA oB : Orders} (ho : OrdersOk o) (hoA : OrdersOk oA) (hoB : OrdersOk oB)
    (vs ws : List SV) (hd : Disjoint vs ws)
    (hw : WordOnly (infOf (vs ++ ws)) (nvarsOf (vs ++ ws)))
    {fuel fuelA fuelB : Nat} {l lA lB : List (Layout.Entry JsonModel.AbiType)}
    (h : (analyseLifted o fuel (vs ++ ws)).outcome = .layout l)
    (hA : (analyseLifted oA fuelA vs).outcome = .layout lA)
    (hB : (analyseLifted oB fuelB ws).outcome = .layout lB) :
    l = Layout.buildLayout (lA ++ lB) ∧ l.Perm (lA ++ lB) :=
  (U2_closed ho hoA hoB vs ws hd hw hA hB fuel).1 l h

/-- … and it exists whenever the two separate ones do. -/
theorem C11_union_exists {o oA oB : Orders} (ho : OrdersOk o) (hoA : OrdersOk oA) (hoB : OrdersOk oB)
    (vs ws : List SV) (hd : Disjoint vs ws)
    (hw : WordOnly (infOf (vs ++ ws)) (nvarsOf (vs ++ ws)))
    {fuel fuelA fuelB : Nat} (hfuel : 2 ≤ fuel) {lA lB : List (Layout.Entry JsonModel.AbiType)}
    (hA : (analyseLifted oA fuelA vs).outcome = .layout lA)
    (hB : (analyseLifted oB fuelB ws).outcome = .layout lB) :
    ∃ l, (analyseLifted o fuel (vs ++ ws)).outcome = .layout l :=
  ⟨_, (U2_closed ho hoA hoB vs ws hd hw hA hB fuel).2 hfuel⟩

/-! Non-vacuity (in `Lemmas/FragUnion.lean`, audited under these names): `SLE.FragUnion.U3` — the
fragments `sstore(1, callvalue)` and `sstore(2, caller)` meet every hypothesis, and the joint
layout is `[1: uint, 2: address]` for every admissible order and every budget ≥ 2;
`SLE.FragUnion.exC_union` — a fragment with contradictory evidence next to a clean one gives
`[1: conflict, 2: address]` in every order. -/

end SLE.C11
