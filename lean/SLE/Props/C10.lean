import SLE.Lemmas.Disasm
import SLE.Gen.OpcodeTable
/-!
# C10 — disassembly is total, lossless and keeps byte offsets

Property theorems only.  Model: `SLE.Disasm` (mirror of `disassemble`, `PushN::new`,
`Opcode::encode`).  Bytes are quantified as `List UInt8`.
-/
namespace SLE.C10
open SLE.Disasm

def toNats (bs : List UInt8) : List Nat := bs.map UInt8.toNat

private theorem toNats_ne {bs : List UInt8} (h : bs ≠ []) : toNats bs ≠ [] := by
  cases bs <;> simp_all [toNats]

/-- Disassembly of any non-empty byte string that fits `u32` offsets is exactly the
chunk-wise reference decoding. -/
theorem C10_disasm_eq_spec (bs : List UInt8) (h : bs ≠ []) (hl : bs.length ≤ 2 ^ 32) :
    disasm (toNats bs) = .ok (spec (toNats bs)) := by
  rw [disasm_eq_full _ (toNats_ne h) (by simpa [toNats] using hl), full_idle_spec]

/-- Total: every non-empty byte string disassembles (no `Err`, in particular no
`InvalidPushSize` from a PUSH cut short by the end of the code). -/
theorem C10_total (bs : List UInt8) (h : bs ≠ []) (hl : bs.length ≤ 2 ^ 32) :
    ∃ is, disasm (toNats bs) = .ok is :=
  ⟨_, C10_disasm_eq_spec bs h hl⟩

/-- One stream entry per input byte: instruction index = byte offset. -/
theorem C10_length (bs : List UInt8) (is : List Instr) (h : disasm (toNats bs) = .ok is) :
    is.length = bs.length := by
  rw [disasm_ok h, spec_length]; simp [toNats]

/-- Lossless: re-encoding the stream gives back the input byte for byte (this is also the
`assert_eq!` in `InstructionStream::try_from`, which therefore cannot fire). -/
theorem C10_roundtrip (bs : List UInt8) (is : List Instr) (h : disasm (toNats bs) = .ok is) :
    encodeAll is = toNats bs := by
  rw [disasm_ok h]; exact spec_encode _

private theorem entries (bs : List UInt8) (is : List Instr) (h : disasm (toNats bs) = .ok is) :
    All3 Entry (toNats bs) (pushDataMask (toNats bs)) is := by
  rw [disasm_ok h]; exact spec_entries _

/-- Bytes that the EVM's own forward scan calls push immediates are never instructions:
the entry at such an offset is the `Nop` placeholder, or — only inside a PUSH cut short
by the end of the code — `Invalid`. -/
theorem C10_pushdata_not_instr (bs : List UInt8) (is : List Instr)
    (h : disasm (toNats bs) = .ok is) (i : Nat)
    (hm : (pushDataMask (toNats bs))[i]? = some true) :
    is[i]? = some .nop ∨ ∃ b, is[i]? = some (.invalid b) := by
  have hall := entries bs is h
  have hlen := hall.lengths
  have hi : i < (pushDataMask (toNats bs)).length := by
    cases hx : (pushDataMask (toNats bs))[i]? with
    | none => simp [hx] at hm
    | some _ => exact (List.getElem?_eq_some_iff.mp hx).1
  have hb : (toNats bs)[i]? = some ((toNats bs)[i]'(by omega)) := List.getElem?_eq_getElem _
  have hc : is[i]? = some (is[i]'(by omega)) := List.getElem?_eq_getElem _
  have := (hall.get i hb hm hc).1 rfl
  rcases this with h1 | h1
  · left; rw [hc, h1]
  · right; exact ⟨_, by rw [hc, h1]⟩

/-- An entry is `JUMPDEST` exactly at offsets holding byte `0x5b` that the EVM scan does
not call push data — so push immediates are never jump destinations. -/
theorem C10_jumpdest_iff (bs : List UInt8) (is : List Instr)
    (h : disasm (toNats bs) = .ok is) (i : Nat) :
    is[i]? = some (.op 0x5b) ↔
      ((toNats bs)[i]? = some 0x5b ∧ (pushDataMask (toNats bs))[i]? = some false) := by
  have hall := entries bs is h
  have hlen := hall.lengths
  by_cases hi : i < is.length
  · have hb : (toNats bs)[i]? = some ((toNats bs)[i]'(by omega)) := List.getElem?_eq_getElem _
    have hm : (pushDataMask (toNats bs))[i]? = some ((pushDataMask (toNats bs))[i]'(by omega)) :=
      List.getElem?_eq_getElem _
    have hc : is[i]? = some (is[i]'(by omega)) := List.getElem?_eq_getElem _
    have hE := hall.get i hb hm hc
    generalize (toNats bs)[i]'(by omega) = b at hb hE
    generalize (pushDataMask (toNats bs))[i]'(by omega) = m at hm hE
    generalize is[i]'(by omega) = ins at hc hE
    rw [hb, hm, hc]
    obtain ⟨hE1, hE2⟩ := hE
    constructor
    · intro hop
      have hop : ins = .op 0x5b := by simpa using hop
      subst hop
      cases m with
      | true => rcases hE1 rfl with h1 | h1 <;> simp at h1
      | false =>
        obtain ⟨h1, h2, h3⟩ := hE2 rfl
        by_cases hp : isPush b = true
        · rcases h1 hp with ⟨d, hd⟩ | hd <;> simp at hd
        · have hp' : isPush b = false := by simpa using hp
          by_cases hk : isKnown b = true
          · have := h2 hp' hk; simp at this; simp [this]
          · have hk' : isKnown b = false := by simpa using hk
            have := h3 hp' hk'; simp at this
    · rintro ⟨hb5, hmf⟩
      have hb5 : b = 0x5b := by simpa using hb5
      have hmf : m = false := by simpa using hmf
      subst hb5 hmf
      have := (hE2 rfl).2.1 (by decide) (by decide)
      simp [this]
  · have h1 : is[i]? = none := by simp; omega
    have h2 : (toNats bs)[i]? = none := by simp; omega
    simp [h1, h2]

/-- A PUSHn whose immediate is cut short by the end of the code — by any number of bytes,
including all of them — is tolerated: the opcode byte and whatever immediate bytes exist
become `Invalid` entries, one per byte. -/
theorem C10_truncated_push_ok (n : Nat) (hn : 1 ≤ n ∧ n ≤ 32) (data : List UInt8)
    (hd : data.length < n) :
    disasm ((0x5f + n) :: toNats data) =
      .ok (.invalid (0x5f + n) :: (toNats data).map .invalid) := by
  have hlen : ((0x5f + n) :: toNats data).length ≤ 2 ^ 32 := by simp [toNats]; omega
  rw [disasm_eq_full _ (by simp) hlen, full_idle_spec, spec_cons]
  have hp : isPush (0x5f + n) = true := by unfold isPush; simp; omega
  have hdl : (toNats data).length = data.length := by simp [toNats]
  have hle : ¬ (0x5f + n - 0x5f ≤ (toNats data).length) := by rw [hdl]; omega
  simp only [hp, hle, if_true, if_false]

/-- Bytes with no assigned opcode behave as `INVALID` wherever they are decoded as an
instruction. -/
theorem C10_unknown_invalid (bs : List UInt8) (is : List Instr)
    (h : disasm (toNats bs) = .ok is) (i : Nat) (b : Nat)
    (hb : (toNats bs)[i]? = some b) (hm : (pushDataMask (toNats bs))[i]? = some false)
    (hp : isPush b = false) (hk : isKnown b = false) : is[i]? = some (.invalid b) := by
  have hall := entries bs is h
  have hlen := hall.lengths
  have hi : i < (toNats bs).length := (List.getElem?_eq_some_iff.mp hb).1
  have hc : is[i]? = some (is[i]'(by omega)) := List.getElem?_eq_getElem _
  have := ((hall.get i hb hm hc).2 rfl).2.2 hp hk
  rw [hc, this]

/-! ### Tie to the regenerated opcode table (re-decided on every run) -/

def kindOf : Instr → Nat
  | .op _ => 0 | .push _ _ => 1 | .nop => 2 | .invalid _ => 3

def leadingNops : List Instr → Nat
  | .nop :: r => leadingNops r + 1
  | _ => 0

/-- What the model says `disassemble([b] ++ [0;32])` starts with:
(kind, `encode()` of the first entry, number of `Nop`s that follow it). -/
def modelRow (b : Nat) : Nat × List Nat × Nat :=
  match disasm (b :: List.replicate 32 0) with
  | .ok (i :: rest) => (kindOf i, i.encode, leadingNops rest)
  | _ => (99, [], 0)

/-- The table obtained by *executing the current Rust disassembler* on every first byte
equals the model's. -/
theorem C10_table : SLE.Gen.opcodeRows = (List.range 256).map modelRow := by
  decide +kernel

/-! ### Non-vacuity -/

example : disasm (toNats [0x60]) = .ok [.invalid 0x60] := by rfl
example : disasm (toNats [0x61, 0x5b]) = .ok [.invalid 0x61, .invalid 0x5b] := by rfl
example : disasm (toNats [0x60, 0x5b, 0x5b]) = .ok [.push 1 [0x5b], .nop, .op 0x5b] := by rfl
example : pushDataMask (toNats [0x60, 0x5b, 0x5b]) = [false, true, false] := by
  simp [toNats, mask_cons, mask_nil, isPush]

end SLE.C10
