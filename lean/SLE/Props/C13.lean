import SLE.Lemmas.Poll
import SLE.Lemmas.OrderFacts
/-!
# C13 — the watchdog can stop analysis at any poll and is polled as often as promised

Property theorems over M9 (`SLE.Poll`): `pollLoop` is the polling discipline every monitored
loop shares (`counter % every == 0 && should_stop()`); `pipeline every wd vm tc` is the main VM
loop over a schedule `vm` (each iteration with the lengths of the bulk-copy loops its opcode runs,
whose stop is recorded as an error rather than returned) followed by the type-checking phases
`tc`.  The watchdog `wd : Nat → Bool` is an arbitrary function of the poll index.
-/
namespace SLE.C13
open SLE.Poll

/-- A loop polls exactly at iterations 0, every, 2·every, … — once per `every` iterations,
`⌈n / every⌉` polls in all — and at no other. -/
theorem C13_poll_count {every : Nat} (hev : 0 < every) (n : Nat) :
    ((List.range n).filter (fun i => (0 + i) % every = 0)).length = (n + every - 1) / every := by
  rw [← pollCnt_eq_filter_range, poll_count hev]

theorem C13_polled_iterations {σ α : Type} (every : Nat) (wd : Nat → Bool) (body : σ → α → σ)
    (xs : List α) (p : Nat) (s : σ)
    (h : ∀ j, p ≤ j → j < p + pollCnt every 0 xs.length → wd j = false) :
    (pollLoopTr every wd body xs 0 p s).2 = polledIdx every xs.length := by
  rw [pollLoopTr_silent every wd body xs 0 p s h, polledIdx, List.range_eq_range']

/-- If the watchdog answers "stop" at a poll a loop issues, the loop returns at that poll: no
further iteration, no further poll. -/
theorem C13_stop_now {σ α : Type} (every : Nat) (wd : Nat → Bool) (body : σ → α → σ)
    (xs : List α) (p : Nat) (s : σ) (k : Nat) (hpk : p ≤ k)
    (hf : ∀ j, p ≤ j → j < k → wd j = false) (ht : wd k = true)
    (hk : k < p + ((List.range xs.length).filter (fun i => (0 + i) % every = 0)).length) :
    pollLoop every wd body xs 0 p s = .stopped (k + 1) := by
  rw [← pollCnt_eq_filter_range] at hk
  exact pollLoop_stop every wd body xs 0 p s k hpk hf ht hk

/-- Never a layout from partial work: if any poll that was actually issued was answered "stop",
the analysis does not finish with a layout. -/
theorem C13_never_layout (every : Nat) (wd : Nat → Bool) (vm : List VMIter) (tc : List Nat)
    (h : ∃ k, k < (pipeline every wd vm tc).polls ∧ wd k = true) :
    (pipeline every wd vm tc).isLayout = false :=
  pipeline_never_layout' every wd vm tc h

/-- A stop at a poll of the VM main loop or of a type-checking phase returns immediately. -/
theorem C13_stop_at_main_is_immediate (every : Nat) (wd : Nat → Bool) (vm : List VMIter)
    (tc : List Nat) (k : Nat) (hf : ∀ j, j < k → wd j = false) (ht : wd k = true)
    (hkind : (∃ pre it post, vm = pre ++ it :: post ∧ pre.length % every = 0 ∧ k = vmPolls every pre 0)
              ∨ (vmPolls every vm 0 ≤ k ∧ k < vmPolls every vm 0 + phasePolls every tc)) :
    pipeline every wd vm tc = .stopped (k + 1) := by
  rcases hkind with ⟨pre, it, post, rfl, hc, hk⟩ | ⟨hk1, hk2⟩
  · exact pipeline_stop_at_main every wd pre it post tc k hc hk hf ht
  · exact pipeline_stop_at_phase every wd vm tc k hk1 hk2 hf ht

/-- A stop first raised inside a bulk-copy loop surfaces as a stopped/failed result after a
bounded number of further polls: at most one per non-empty copy loop until the next main-loop
poll, which is fewer than `every` iterations away. -/
theorem C13_stop_from_copy_bounded {every : Nat} (wd : Nat → Bool) (hev : 0 < every)
    (pre : List VMIter) (itPre : VMIter) (len : Nat) (itPost : VMIter) (post : List VMIter)
    (tc : List Nat) (k : Nat) (hmono : ∀ j k, j ≤ k → wd j = true → wd k = true)
    (hk1 : vmPolls every pre 0 + (if pre.length % every = 0 then 1 else 0) + iterPolls every itPre ≤ k)
    (hk2 : k < vmPolls every pre 0 + (if pre.length % every = 0 then 1 else 0)
            + iterPolls every itPre + pollCnt every 0 len)
    (hf : ∀ j, j < k → wd j = false) (ht : wd k = true) :
    ∃ p d, (pipeline every wd (pre ++ (itPre ++ len :: itPost) :: post) tc = .stopped p
          ∨ pipeline every wd (pre ++ (itPre ++ len :: itPost) :: post) tc = .failedWithStop p)
      ∧ k + 1 ≤ p ∧ d < every ∧ (pre.length + 1 + d) % every = 0
      ∧ p - (k + 1) ≤ nonempties (itPost ++ (post.take d).flatten) + 1
      ∧ p - (k + 1) ≤ (itPost ++ post.flatten).sum + 1 := by
  -- the outcome is `afterStop` on the rest of the schedule, started at poll count `k + 1 + …`
  rw [pipeline_stop_at_copy_exact every wd pre itPre len itPost post tc k hmono hk1 hk2 hf ht]
  obtain ⟨d, hd1, hd2⟩ := exists_next_poll hev (pre.length + 1)
  have hb1 := afterStop_polls_le every post (pre.length + 1) (k + 1 + nonempties itPost) d
    (.inl hd2)
  have hb2 := afterStop_polls_le every post (pre.length + 1) (k + 1 + nonempties itPost)
    post.length (.inr (Nat.le_refl _))
  rw [List.take_length] at hb2
  have hs := nonempties_le_sum (itPost ++ post.flatten)
  rw [nonempties_append] at hs
  obtain ⟨q, hq1, hq⟩ := afterStop_not_finished every post (pre.length + 1)
    (k + 1 + nonempties itPost)
  have hpolls : (afterStop every post (pre.length + 1) (k + 1 + nonempties itPost)).polls = q := by
    rcases hq with hq | hq <;> rw [hq] <;> rfl
  rw [hpolls] at hb1 hb2
  refine ⟨q, d, hq, by omega, hd1, hd2, ?_, by omega⟩
  rw [nonempties_append]
  omega

/-- If the watchdog never says stop — or would only do so after the last poll — the result is
the unmonitored one, and the number of polls is the closed form
`⌈|vm| / every⌉ + Σ ⌈len / every⌉ + Σ ⌈n / every⌉`. -/
theorem C13_transparent {every : Nat} (wd : Nat → Bool) (hev : 0 < every) (vm : List VMIter)
    (tc : List Nat) (h : ∀ k, k < totalPolls every vm tc → wd k = false) :
    pipeline every wd vm tc = .finished (totalPolls every vm tc) :=
  pipeline_silent_totalPolls every wd hev vm tc h

/-! ### Non-vacuity -/
example : pipeline 3 (fun k => decide (5 ≤ k)) [[5], [], [], [0, 7]] [4, 10] = .failedWithStop 6 := by decide
example : pipeline 3 (fun _ => false) [[5], [], [], [0, 7]] [4, 10] = .finished 13 := by decide


/-! ### The unification loop: the counter advances on evidence-holding classes only -/

/-- What one round counts: it reaches the polling check once per class and advances the counter
once per class that holds evidence. -/
theorem C13_unify_round_counts {o : Unify.Orders} {f : Unify.Forest} {next counter : Nat} {acc : Unify.RoundAcc}
    (h : Unify.round o f next counter = .ok acc) :
    acc.polls = (OrderFacts.classFlags f).length ∧
    acc.counter = counter + (OrderFacts.classFlags f).count true :=
  ⟨(OrderFacts.round_counts h).2.2.1, (OrderFacts.round_counts h).2.2.2⟩

/-- The poll schedule of that loop (`pollsOf every flags counter`: poll when the counter is a
multiple of the interval; advance it on evidence-holding classes): at least one poll per `every`
evidence-holding classes, never more than one per class, and every class when the interval is 1. -/
theorem C13_unify_poll_bounds (every : Nat) (hev : 0 < every) (flags : List Bool) (c : Nat) :
    flags.count true ≤ (OrderFacts.pollsOf every flags c).1 * every + OrderFacts.toNextPoll every c ∧
    (OrderFacts.pollsOf every flags c).1 ≤ flags.length ∧
    (OrderFacts.pollsOf 1 flags c).1 = flags.length :=
  ⟨OrderFacts.pollsOf_lower hev flags c, OrderFacts.pollsOf_le_length every flags c, OrderFacts.pollsOf_one flags c⟩

end SLE.C13
