import SLE.Lemmas.EvalVM
import SLE.Gen.MachineTable
/-!
# The symbolic machine, opcode by opcode, decided against the running code by the kernel

`SLE.Gen.machineTable` is regenerated on every run from `/repo`'s working tree: for every opcode
byte 0x00–0xff, the values `ExecutionResult::all_values()` holds after the running machine has
executed seven pushes, that opcode and STOP — once over a stack of constants, once over
environment and opaque values (so memory, storage, copy, hash, call, log and control opcodes all
see concrete offsets and keys).  The theorem makes the kernel run the model of the machine
(`Disasm.disasm`, `VM.run`, `Pipe.allValues`) on each program and compare the two bags of trees:
kinds, constants, sizes and shape (the identities of opaque values are numbered differently by
the two sides and are not compared).  It is the per-opcode tie of the machine model that C03, C07,
C08, C17 and C18 are stated about.
-/
namespace SLE.MachineTable
open SLE SLE.SV SLE.VM

mutual
/-- equality of trees up to the identities carried by opaque values and call-data reads -/
def shapeEq : SV → SV → Bool
  | .node k a ks s, .node k' a' ks' s' =>
    k == k' && s == s' && (k == .value || k == .callData || a == a') && shapeEqL ks ks'
def shapeEqL : List SV → List SV → Bool
  | [], [] => true
  | x :: xs, y :: ys => shapeEq x y && shapeEqL xs ys
  | _, _ => false
end

/-- remove the first element equal (up to identities) to `v` -/
def removeOne (v : SV) : List SV → Option (List SV)
  | [] => none
  | x :: xs => if shapeEq v x then some xs else (removeOne v xs).map (x :: ·)

def sameBag : List SV → List SV → Bool
  | [], ys => ys.isEmpty
  | x :: xs, ys => match removeOne x ys with
    | some ys' => sameBag xs ys'
    | none => false

def cfg0 : Cfg := ⟨30000000, 10, 50, 250, 394, false⟩

def row (r : List Nat × List SV) : Bool :=
  match Disasm.disasm r.1 with
  | .error _ => false
  | .ok code =>
    let s := run cfg0 code 200 (initVM cfg0 code)
    sameBag ((s.queue ++ s.stored).flatMap (fun t => Pipe.allValues t.d)) r.2

theorem machine_table : (SLE.Gen.machineTable.all row) = true := by
  -- the machine is run by `runC`, which does not walk `code` and `visited` up to `ip` at every instruction
  unfold row
  simp only [run_eq_runC]
  decide +kernel

end SLE.MachineTable
