import SLE.Lemmas.UnifyJoin
/-!
# C15 through the whole unification — evidence spread over equated variables

`Props/C15.lean` states the join / conflict laws per class fold.  Here they are lifted to
`Unify.unify` itself, for word evidence (words of any width and usage, `any`, and equalities between
variables): the classes of the result are exactly the equivalence closure of the declared
equalities, and each class resolves to the fold — in whatever order the hash maps happen to be
iterated — of ALL the evidence declared on ANY of its members.  Hence compatible evidence spread
over equated variables joins to the least upper bound, identically under every iteration order,
and a contradictory pair anywhere in the class makes it a conflict.  (Evidence with constructors
— mappings, arrays, packed encodings — adds equalities during the rounds; for it the per-fold
theorems, the unify table and the `truth` family's congruence-closure oracle remain the evidence.)
-/
namespace SLE.C15
open SLE SLE.Containers SLE.Unify SLE.Merge SLE.MergeLaws SLE.Layout SLE.Join SLE.OrderFacts SLE.UnifyJoin

/-- Word-only problems finish within two rounds with no variable allocated, and the partition of
the result is the equivalence closure of the declared equalities. -/
theorem C15_unify_classes_are_equality_closure {o : Orders} (ho : OrdersOk o) {nvars : Nat} {infs : Nat → List TE}
    (hw : WordOnly infs nvars) (fuel : Nat) (hfuel : 2 ≤ fuel) :
    ∃ f r, unify o fuel nvars infs = .ok (f, nvars, r) ∧ 1 ≤ r ∧ r ≤ 2 ∧
      ∀ a b, DS.rootOf f a = DS.rootOf f b ↔
        Eqv (fun v x => v < nvars ∧ x ∈ infs v) a b := by
  obtain ⟨f, r, e, h1, h2, hf⟩ := unify_word_runs ho hw fuel hfuel
  exact ⟨f, r, e, h1, h2, hf.part⟩

/-- Each class resolves to the fold of all the evidence of all its members. -/
theorem C15_unify_class_is_fold_of_all_evidence {o : Orders} (ho : OrdersOk o) {nvars : Nat} {infs : Nat → List TE}
    (hw : WordOnly infs nvars) {fuel : Nat} {f : Forest} {n r : Nat}
    (h : unify o fuel nvars infs = .ok (f, n, r)) (v : Nat) :
    ((∀ e, ¬ ClassEv infs nvars f v e) ∧ evidence f v = []) ∨
    (∃ l j, (∀ e, e ∈ l ↔ ClassEv infs nvars f v e) ∧ l.Nodup ∧
      foldMerge l = some (j, []) ∧ evidence f v = [j]) := by
  have wr := wordResult ho hw h
  rcases wr.fold v with ⟨h1, h2⟩ | ⟨l, j, hl, hr⟩
  · exact .inl ⟨fun e he => h1 e ((wr.classEv v e).mp he), h2⟩
  · exact .inr ⟨l, j, fun e => (hl e).trans (wr.classEv v e).symm, hr⟩

/-- Compatible evidence spread over equated variables joins: the class resolves to a non-conflict
above every piece of evidence of every member and below every common upper bound … -/
theorem C15_unify_compatible_joins {o : Orders} (ho : OrdersOk o) {nvars : Nat} {infs : Nat → List TE}
    (hw : WordOnly infs nvars) {fuel : Nat} {f : Forest} {n r : Nat}
    (h : unify o fuel nvars infs = .ok (f, n, r)) (v : Nat) (T : TE)
    (hex : ∃ e, ClassEv infs nvars f v e)
    (hT : ∀ e, ClassEv infs nvars f v e → wordLe e T = true) :
    ∃ j, evidence f v = [j] ∧ j ≠ .conflict ∧ ((∃ w u, j = .word w u) ∨ j = .any) ∧
      (∀ e, ClassEv infs nvars f v e → wordLe e j = true) ∧ wordLe j T = true :=
  unify_compatible_joins ho hw h v T hex hT

/-- … it is the least upper bound … -/
theorem C15_unify_join_is_least {o : Orders} (ho : OrdersOk o) {nvars : Nat} {infs : Nat → List TE}
    (hw : WordOnly infs nvars) {fuel : Nat} {f : Forest} {n r : Nat}
    (h : unify o fuel nvars infs = .ok (f, n, r)) (v : Nat) (T : TE)
    (hex : ∃ e, ClassEv infs nvars f v e)
    (hT : ∀ e, ClassEv infs nvars f v e → wordLe e T = true) (j : TE) (hj : evidence f v = [j]) :
    ∀ U, (∀ e, ClassEv infs nvars f v e → wordLe e U = true) → wordLe j U = true := by
  intro U hU
  obtain ⟨j', g1, _, _, _, g5⟩ := unify_compatible_joins ho hw h v U hex hU
  rw [hj] at g1
  injection g1 with g1
  exact g1 ▸ g5

/-- … and the same under any two iteration orders and budgets. -/
theorem C15_unify_join_order_free {o o' : Orders} (ho : OrdersOk o) (ho' : OrdersOk o') {nvars : Nat}
    {infs : Nat → List TE} (hw : WordOnly infs nvars) {fuel fuel' : Nat} {f f' : Forest}
    {n r n' r' : Nat} (h : unify o fuel nvars infs = .ok (f, n, r))
    (h' : unify o' fuel' nvars infs = .ok (f', n', r')) (v : Nat) (T : TE)
    (hex : ∃ e, ClassEv infs nvars f v e)
    (hT : ∀ e, ClassEv infs nvars f v e → wordLe e T = true) :
    evidence f v = evidence f' v :=
  ev_eq ho ho' hw hw h h' v v (fun _ => Iff.rfl)

/-- A contradictory pair of words anywhere among the members of a class makes it a conflict, in
every order. -/
theorem C15_unify_contradiction_conflicts {o : Orders} (ho : OrdersOk o) {nvars : Nat} {infs : Nat → List TE}
    (hw : WordOnly infs nvars) {fuel : Nat} {f : Forest} {n r : Nat}
    (h : unify o fuel nvars infs = .ok (f, n, r)) (v : Nat) (ea eb : TE)
    (ha : ClassEv infs nvars f v ea) (hb : ClassEv infs nvars f v eb)
    (hc : conflicts ea eb = true) : evidence f v = [.conflict] :=
  unify_contradiction_conflicts ho hw h v ea eb ha hb hc

end SLE.C15
