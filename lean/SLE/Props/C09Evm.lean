import SLE.Lemmas.FoldBridge
/-!
# C09 against the reference EVM

`Props/C09.lean` states "folding preserves meaning" against the operator semantics of
`Model/Word.lean` (`Spec.*`, over bit-vectors). Here the same is stated against the second,
independent formulation used by C07: whenever the folder reduces a tree to a constant, that
constant is what the reference EVM's operators (`Spec/EVM.lean`, naturals modulo 2^256) compute for
the tree — for all 19 binary and 2 unary foldable operators, every nesting, every operand value.
`LitOK v`: every literal in `v` is a 256-bit word (what the machine and the parser produce).
-/
namespace SLE.C09E
open SLE SLE.SV SLE.EvalC

theorem C09_fold_agrees_with_reference_evm (v : SV) (h : PathSim.Bridge.LitOK v) (w : Word)
    (hw : asWord (fold v) = some w) : evalSV v = some w.toNat :=
  PathSim.Bridge.fold_agree v h w hw

end SLE.C09E
