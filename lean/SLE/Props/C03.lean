import SLE.Lemmas.VMTermination
import SLE.Lemmas.UnifyTerm
import SLE.Gen.OpcodeTable
import SLE.Lemmas.FuelAdequacy
/-!
# C03 — the analysis halts; execution respects its bounds

Property theorems over M4 (`SLE.VM.step`/`run`, mirror of `VM::execute`/`advance`,
`VisitedOpcodes`, `JumpTargets::fork_to`, `VMThread::fork`) for *every* program, every data
effect of the opcodes and every configuration with a positive iteration limit, and over M5 for
the halting of unification (packed-free judgement sets; with packed encodings see C14).
Lifting, registration and rule application are structural recursions in the model, so their
termination is checked when the model compiles.
-/
namespace SLE.C03
open SLE SLE.VM SLE.Disasm

/-- No thread — running or finished — has executed any instruction more often than the
per-opcode iteration limit. -/
theorem C03_visit_bound (cfg : Cfg) (code : List Instr) (hc : 0 < code.length)
    (hi : 0 < cfg.iterLimit) (fuel : Nat) :
    let s := run cfg code fuel (initVM cfg code)
    ∀ t ∈ s.queue ++ s.stored, ∀ off, t.visited.getD off 0 ≤ cfg.iterLimit := by
  intro s t ht off
  have h := inv_run fuel (inv_init hc hi)
  rcases List.mem_append.mp ht with ht | ht
  · exact (h.queueOk t ht).le off
  · exact (h.storedOk t ht).le off

/-- No jump destination is forked to more often than the fork limit. -/
theorem C03_fork_bound (cfg : Cfg) (code : List Instr) (hc : 0 < code.length)
    (hi : 0 < cfg.iterLimit) (fuel : Nat) :
    ∀ off, (run cfg code fuel (initVM cfg code)).forks.getD off 0 ≤ cfg.forkLimit :=
  (inv_run fuel (inv_init hc hi)).forks.le

/-- At most `1 + forkLimit · #JUMPDEST` threads are ever created, and none vanishes. -/
theorem C03_thread_bound (cfg : Cfg) (code : List Instr) (hc : 0 < code.length)
    (hi : 0 < cfg.iterLimit) (fuel : Nat) :
    let s := run cfg code fuel (initVM cfg code)
    s.created ≤ 1 + cfg.forkLimit * (code.filter (· == .op 0x5b)).length ∧
    s.created = s.queue.length + s.stored.length := by
  have h := inv_run fuel (inv_init hc hi)
  refine ⟨?_, h.created⟩
  have := forks_sum_le h.forks
  rw [h.createdForks]
  omega

/-- No thread continues once the minimum gas it has consumed exceeds the gas limit: such a
thread is retired by the `advance` of the very step that took it over the limit. -/
theorem C03_gas_bound (cfg : Cfg) (code : List Instr) (hc : 0 < code.length)
    (hi : 0 < cfg.iterLimit) (fuel : Nat) :
    ∀ t ∈ (run cfg code fuel (initVM cfg code)).queue, ¬ t.gas > cfg.gasLimit := by
  intro t ht
  have := ((inv_run fuel (inv_init hc hi)).runnable t ht).gas
  omega

/-- Symbolic execution stops by itself: within an explicit number of loop iterations the
thread queue is empty (or the run aborted with a reported panic). -/
theorem C03_vm_terminates (cfg : Cfg) (code : List Instr) (hc : 0 < code.length)
    (hi : 0 < cfg.iterLimit) :
    let bound := (code.length * cfg.iterLimit + 1) *
      (1 + cfg.forkLimit * (code.filter (· == .op 0x5b)).length)
    ∀ fuel, fuel ≥ bound →
      let s := run cfg code fuel (initVM cfg code)
      s.queue = [] ∨ s.aborted.isSome = true :=
  run_terminates hc hi

/-- Unification halts on every judgement set without packed encodings, within `nvars + 2`
rounds, for every iteration order. (Termination on all sets, the full statement of C03, does not
hold: the pinned code loops on self-referential packed evidence — finding D12, see C14.) -/
theorem C03_unify_terminates_partial (o : Unify.Orders) (ho : Unify.OrdersOk o) (nvars : Nat)
    (infs : Nat → List TE) (h : Unify.NoPacked nvars infs) :
    ∀ fuel, nvars + 2 ≤ fuel → ∃ f n r, Unify.unify o fuel nvars infs = .ok (f, n, r) :=
  Unify.unify_ok_nopacked ho h

/-- The per-opcode minimum gas used by the model is the one the code reports (regenerated
table, re-decided on every run). -/
theorem C03_gas_table :
    (List.range 256).map (fun b => minGas (match disasm (b :: List.replicate 32 0) with
      | .ok (i :: _) => i | _ => .nop)) = SLE.Gen.opcodeMinGas := by decide +kernel

/-! ### Non-vacuity -/
example : 0 < [Instr.op 0x5b, .op 0x00].length ∧ 0 < (⟨100, 1, 1, 5, 32, false⟩ : Cfg).iterLimit := by decide


/-! ### The stages after execution are total functions, and the fuel arguments of their models
are artefacts: no hidden size limit -/

/-- The nine lifting passes give the same result for every sufficient fuel (the model uses
`nodeCount + 1`); in particular they terminate on every tree and never cut a large tree short. -/
theorem C03_lifting_fuel_free (f : SV → Nat) (h : Lift.HashCtx) (v : SV) (hf : ∀ t, SV.nodeCount t < f t) :
    FuelAdequacy.liftAllWith f h v = Lift.liftAll h v :=
  FuelAdequacy.liftAll_fuel_free f h v hf

/-- Registration of type variables likewise. -/
theorem C03_register_fuel_free (f : SV → Nat) (hf : ∀ v, SV.nodeCount v < f v) (vs : List SV) :
    FuelAdequacy.registerAllWith f vs = TC.registerAll vs :=
  FuelAdequacy.registerAllWith_eq f hf vs

/-- Rendering: more fuel never changes a result that is not the out-of-fuel marker. -/
theorem C03_render_fuel_monotone (typeOf : Nat → Except TC.RErr TE) (fuel v : Nat) (seen : List TE) (pp : Bool)
    (h : TC.abiTypeFor typeOf fuel v seen pp ≠ .error .outOfFuel) :
    TC.abiTypeFor typeOf (fuel + 1) v seen pp = TC.abiTypeFor typeOf fuel v seen pp :=
  FuelAdequacy.abiTypeFor_stable typeOf fuel v seen pp h

end SLE.C03
