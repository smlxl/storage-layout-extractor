import SLE.Lemmas.Rename
/-!
# C11 — a slot's reported type depends only on the code that touches that slot

Over the type-checking pipeline model (`TC`, tied to the code by family `tc`).  `mapConsts ρ`
renames every constant of a value; `SafeFor ρ v` asks `ρ` to leave alone the only two constants
the rules read as numbers (a literal SIGNEXTEND size — up to the width derived from it — and the
size of a call-data read); slot numbers are never among them in generated code.
-/
namespace SLE.C11
open SLE SLE.SV SLE.TC SLE.Rename

/-- The stable-type memo shares a type variable between two sub-trees exactly when they are
structurally equal, and an injective renaming of constants preserves that relation both ways —
so sharing decisions do not depend on what the slot numbers are. -/
theorem C11_sharing_invariant {ρ : Nat → Nat} (hρ : Function.Injective ρ) (a b : SV) :
    SV.beq (mapConsts ρ a) (mapConsts ρ b) = SV.beq a b := beq_mapConsts hρ a b

/-- Typing judgements are independent of the constants: consistently renumbering the constants
of the lifted values produces the very same judgements on the very same type variables. -/
theorem C11_judgements_independent_of_constants {ρ : Nat → Nat} (hρ : Function.Injective ρ) (vs : List SV)
    (hs : ∀ v ∈ vs, SafeFor ρ v) :
    (inferAll (registerAll (vs.map (mapConsts ρ)))).judgements = (inferAll (registerAll vs)).judgements
    ∧ (inferAll (registerAll (vs.map (mapConsts ρ)))).next = (inferAll (registerAll vs)).next :=
  judgements_independent_of_constants hρ vs hs

/-- … and the constant storage slots are renumbered by `ρ`, nothing else. -/
theorem C11_slots_renumbered {ρ : Nat → Nat} (hρ : Function.Injective ρ) (vs : List SV) :
    (registerAll (vs.map (mapConsts ρ))).values = (registerAll vs).values.map (TV.mapConsts ρ) ∧
    ∀ t : TV, isConstSlot (t.mapConsts ρ) = (isConstSlot t).map ρ :=
  ⟨registerAll_values_mapConsts hρ vs, isConstSlot_mapConsts ρ⟩

/-- Hence the layout of the renumbered values is the renumbered layout: same types, same
offsets, indices mapped by `ρ` (as a multiset; `C12_sorted` fixes the order), for every
iteration order and step budget; failures correspond as well. -/
theorem C11_layout_renumbered {ρ : Nat → Nat} (hρ : Function.Injective ρ) (o : Unify.Orders) (fuel : Nat)
    (lifted : List SV) (hs : ∀ v ∈ lifted, SafeFor ρ v) :
    (∀ l, (analyseLifted o fuel lifted).outcome = .layout l →
      ∃ l', (analyseLifted o fuel (lifted.map (mapConsts ρ))).outcome = .layout l'
        ∧ l'.Perm (l.map (reindex ρ)))
    ∧ (∀ l', (analyseLifted o fuel (lifted.map (mapConsts ρ))).outcome = .layout l' →
      ∃ l, (analyseLifted o fuel lifted).outcome = .layout l ∧ l'.Perm (l.map (reindex ρ))) :=
  layout_renumbered hρ o fuel lifted hs

/-- `analyseLifted` is `analyse` after the lifting passes. -/
theorem C11_analyseLifted_is_analyse (h : Lift.HashCtx) (o : Unify.Orders) (fuel : Nat) (vs lifted : List SV)
    (hl : liftValues h (uniqueSV vs) = .ok lifted) : analyse h o fuel vs = analyseLifted o fuel lifted :=
  analyse_eq_analyseLifted h o fuel vs lifted hl

/-- Registration of a second fragment's values extends the first fragment's registration: the
first fragment's nodes keep their type variables (company does not renumber them). -/
theorem C11_registration_extends (vs ws : List SV) :
    registerAll (vs ++ ws) = ws.foldl (fun st v => (register (nodeCount v + 1) st v).1) (registerAll vs) := by
  simp [registerAll, List.foldl_append]

/-! Not proved: (a) the renaming commutes with the lifting passes themselves (it does not in
general: `StorageSlotHashes` recognises 10,000 particular constants and `ProxySlots` string-like
ones — renaming onto or off those changes the result by design); (b) the union statement for two
fragments behind a dispatcher beyond what `Props/C11Frag.lean` (unification keeps the fragments
apart) and `Props/C11Union.lean` (layout union for word evidence) establish.  Both are checked on
whole programs by the `frag` family (A, B, dispatcher(A,B); P, rename(P)). -/

/-! ### Non-vacuity -/
example : Function.Injective (fun n : Nat => n + 5) := fun a b h => by simpa using h

end SLE.C11
