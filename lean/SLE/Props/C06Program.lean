import SLE.Lemmas.ProgramSlots
/-!
# C06 at program level — a storage access with a literal key is never missed

About `Pipe.analyseProgram` (the model of `Extractor::analyze`, tied to it end to end by the
`pipeline`, `idiom`, `frag` families and by `PipelineTable.pipeline_table`).  `litKey w k` says the
key value `k` is the constant `w` — what a PUSH instruction puts on the stack
(`C06_push_pushes_literal`), and exactly the test `literalAccess` applies.

The machine never drops a thread (`C06_threads_never_dropped`): a thread whose instruction fails is
retired to the finished list with the storage it had; in strict mode the failure is also recorded
and no layout is returned at all.  So, whenever the machine finishes within its step budget and the
analysis returns a layout, every SSTORE / SLOAD executed on any explored path with a literal key `w`
that is not the recognised Keccak image of a small slot number yields a layout entry with index
exactly `w`.  The one way to miss a key is the step budget running out with the thread still
queued (`ProgramSlots.fuel_out_counterexample`; the code's analogue is the watchdog / iteration limits,
which return an error instead of a layout).
-/
namespace SLE.C06
open SLE SLE.SV SLE.VM SLE.ProgramSlots

/-- PUSHn puts a literal on the stack (for any size limit of at least one node). -/
theorem C06_push_pushes_literal (c : Ctx) (code : List Disasm.Instr) (n : Nat) (data : List Nat) (d : TData)
    (ctr : Nat) (hlim : 1 ≤ c.cfg.valueLimit) (hdepth : d.stack.length < 1024) :
    ∃ v, (execOp c code (.push n data) d ctr).err = none ∧
      (execOp c code (.push n data) d ctr).d.stack = v :: d.stack ∧
      litKey (EvmSim.beVal data % 2 ^ 256) v = true := by
  rw [EvmSim.execOp_push, EvmSim.pushOut_eq, if_neg (by omega)]
  refine ⟨_, rfl, rfl, ?_⟩
  have hv : (buildKnown c ctr (BitVec.ofNat 256 (EvmSim.beVal data))).1 =
      .node .knownData [EvmSim.beVal data % 2 ^ 256] [] 1 := by
    simp only [buildKnown, build, SV.mk, childSize, List.map_nil, List.sum_nil, BitVec.toNat_ofNat]
    rw [if_neg (by omega)]
  rw [hv]
  exact litKey_node ..

/-- Every constant key with a history in the storage of a finished thread is a slot of the layout. -/
theorem C06_program_literal_keys_reported (h : Lift.HashCtx) (o : Unify.Orders) (cfg : VM.Cfg) (bytes : List Nat)
    (vmFuel uFuel : Nat) (code : List Disasm.Instr) (a : TC.Analysis) (l : List (Layout.Entry JsonModel.AbiType))
    (hd : Disasm.disasm bytes = .ok code)
    (ha : Pipe.analyseProgram h o cfg bytes vmFuel uFuel = .analysed a) (hl : a.outcome = .layout l)
    (t : VM.Thread) (ht : t ∈ (VM.run cfg code vmFuel (VM.initVM cfg code)).stored)
    (k : SV) (g : List SV) (hk : (k, g) ∈ t.d.stK) (hg : g ≠ []) (w : Nat)
    (hw : k.asWord.map (·.toNat) = some w ∨ litKey w k = true)
    (hnot : h.table w = none) : ∃ e ∈ l, e.index = w :=
  program_literal_keys_reported h o cfg bytes vmFuel uFuel code a l hd ha hl t ht k g hk hg w hw hnot

/-- No thread is ever dropped by the scheduler, in either mode: every thread of a state has a
continuation among the queued and finished threads of every later state, whose storage histories
extend its own and which still holds every key it held. -/
theorem C06_threads_never_dropped (cfg : Cfg) (code : List Disasm.Instr) (fuel : Nat) (s : VMS) :
    ∀ th ∈ s.queue ++ s.stored,
      ∃ th' ∈ (run cfg code fuel s).queue ++ (run cfg code fuel s).stored, Extends th.d th'.d :=
  run_continues cfg code fuel s

/-- **A store is never missed.**  If after `n` iterations the running thread stands on an SSTORE
with the literal `w` on top of its stack, the machine finishes within its budget and the analysis
returns a layout, then `w` is a slot of that layout. -/
theorem C06_program_sstore_literal_reported (h : Lift.HashCtx) (o : Unify.Orders) (cfg : VM.Cfg)
    (bytes : List Nat) (vmFuel uFuel : Nat) (code : List Disasm.Instr) (a : TC.Analysis)
    (l : List (Layout.Entry JsonModel.AbiType))
    (hd : Disasm.disasm bytes = .ok code)
    (ha : Pipe.analyseProgram h o cfg bytes vmFuel uFuel = .analysed a) (hl : a.outcome = .layout l)
    (hfin : (VM.run cfg code vmFuel (VM.initVM cfg code)).queue = [])
    (n : Nat) (hn : n < vmFuel) (t : VM.Thread) (rest : List VM.Thread)
    (hq : (VM.run cfg code n (VM.initVM cfg code)).queue = t :: rest)
    (hab : (VM.run cfg code n (VM.initVM cfg code)).aborted = none)
    (hi : code[t.ip]? = some (.op 0x55))
    (k v : SV) (r : List SV) (hs : t.d.stack = k :: v :: r) (w : Nat) (hw : litKey w k = true)
    (hnot : h.table w = none) : ∃ e ∈ l, e.index = w := by
  obtain ⟨_, g, hkg, hg, _⟩ := sstore_literal_key_present
    { cfg := cfg, ip := t.ip, codeLen := code.length } code t.d
    (run cfg code n (initVM cfg code)).ctr k v r w hs hw
  exact program_access_reported h o cfg bytes vmFuel uFuel code a l hd ha hl hfin n hn t rest hq hab
    _ hi k w hw ⟨g, hkg, hg⟩ hnot

/-- **A load is never missed.** (The invariant `StWF` that `sload_literal_key_present_partial` needs holds
in every reachable thread.) -/
theorem C06_program_sload_literal_reported (h : Lift.HashCtx) (o : Unify.Orders) (cfg : VM.Cfg)
    (bytes : List Nat) (vmFuel uFuel : Nat) (code : List Disasm.Instr) (a : TC.Analysis)
    (l : List (Layout.Entry JsonModel.AbiType))
    (hd : Disasm.disasm bytes = .ok code)
    (ha : Pipe.analyseProgram h o cfg bytes vmFuel uFuel = .analysed a) (hl : a.outcome = .layout l)
    (hfin : (VM.run cfg code vmFuel (VM.initVM cfg code)).queue = [])
    (n : Nat) (hn : n < vmFuel) (t : VM.Thread) (rest : List VM.Thread)
    (hq : (VM.run cfg code n (VM.initVM cfg code)).queue = t :: rest)
    (hab : (VM.run cfg code n (VM.initVM cfg code)).aborted = none)
    (hi : code[t.ip]? = some (.op 0x54))
    (k : SV) (r : List SV) (hs : t.d.stack = k :: r) (w : Nat) (hw : litKey w k = true)
    (hnot : h.table w = none) : ∃ e ∈ l, e.index = w :=
  program_access_reported h o cfg bytes vmFuel uFuel code a l hd ha hl hfin n hn t rest hq hab
    _ hi k w hw
    (sload_literal_key_present_partial { cfg := cfg, ip := t.ip, codeLen := code.length } code t.d
      (run cfg code n (initVM cfg code)).ctr k r w hs hw
      (MachineFacts.reachable_StWF cfg code n t (by rw [hq]; exact List.mem_append_left _ (List.mem_cons_self ..))))
    hnot

/-- The budget hypothesis is discharged by the explicit bound of C03: with at least that much fuel
the queue is empty at the end. -/
theorem C06_program_reached_keys_reported_of_fuel (h : Lift.HashCtx) (o : Unify.Orders) (cfg : VM.Cfg)
    (bytes : List Nat) (vmFuel uFuel : Nat) (code : List Disasm.Instr) (a : TC.Analysis)
    (l : List (Layout.Entry JsonModel.AbiType))
    (hd : Disasm.disasm bytes = .ok code)
    (ha : Pipe.analyseProgram h o cfg bytes vmFuel uFuel = .analysed a) (hl : a.outcome = .layout l)
    (hc : 0 < code.length) (hi : 0 < cfg.iterLimit)
    (hfuel : vmFuel ≥ (code.length * cfg.iterLimit + 1) *
      (1 + cfg.forkLimit * (code.filter (· == .op 0x5b)).length))
    (n : Nat) (hn : n ≤ vmFuel) (t : VM.Thread)
    (ht : t ∈ (VM.run cfg code n (VM.initVM cfg code)).queue ++ (VM.run cfg code n (VM.initVM cfg code)).stored)
    (k : SV) (g : List SV) (hk : (k, g) ∈ t.d.stK) (hg : g ≠ []) (w : Nat)
    (hw : k.asWord.map (·.toNat) = some w ∨ litKey w k = true)
    (hnot : h.table w = none) : ∃ e ∈ l, e.index = w :=
  program_reached_literal_keys_reported h o cfg bytes vmFuel uFuel code a l hd ha hl
    (finished_of_fuel hd ha hc hi hfuel) n hn t ht k g hk hg w hw hnot

/-! ### Non-vacuity and the boundary: PUSH1 1, PUSH1 7, SSTORE, STOP

Decided by kernel evaluation in `Lemmas/ProgramSlots.lean` (audited under these names):
`SLE.ProgramSlots.ex_hyps` (all hypotheses hold together and the layout is the single slot 7),
`SLE.ProgramSlots.ex_sstore_hyps` (the execution form's hypotheses at `n = 4`),
`SLE.ProgramSlots.fuel_out_counterexample` (the budget hypothesis cannot be dropped: five iterations
execute the SSTORE but leave the thread queued, and the layout is empty),
`SLE.ProgramSlots.killed_thread_keeps_keys` (a thread killed by a tolerated permissive-mode jump
error keeps its slots; in strict mode the same program returns the error instead of a layout). -/

end SLE.C06
