import SLE.Lemmas.OrderFreeWords
/-!
# C02 for word evidence — the analysis does not depend on the iteration order

In general the statement of C02 is false of the code (order-dependent merges with absorbing
constructors and packed encodings: findings D11 / D18, witnesses in `Props/C02.lean`).  For values
whose judgement set is word evidence — words of any width and usage, `any`, equalities: what plain
words and addresses produce, contradictory evidence included — it holds outright: any two
admissible iteration orders and any two budgets give the same partition, the same resolved type for
every variable, and the same layout (indeed the same outcome, faults included, from two rounds on).
-/
namespace SLE.C02
open SLE SLE.SV SLE.TC SLE.Containers SLE.Unify SLE.Merge SLE.MergeLaws SLE.Layout SLE.Join SLE.OrderFacts
open SLE.Independence SLE.UnifyJoin SLE.FragUnion SLE.OrderFreeWords
open SLE.Rename (analyseLifted)

/-- Same partition and same resolved expression per class under any two orders and budgets. -/
theorem C02_words_unify_order_free {o o' : Orders} (ho : OrdersOk o) (ho' : OrdersOk o') (vs : List SV)
    (hw : WordOnly (infOf vs) (nvarsOf vs)) {fuel fuel' : Nat} {f f' : Forest} {n r n' r' : Nat} :
    unify o fuel (nvarsOf vs) (infOf vs) = .ok (f, n, r) →
    unify o' fuel' (nvarsOf vs) (infOf vs) = .ok (f', n', r') →
    ∀ v, evidence f v = evidence f' v ∧
      (∀ a b, DS.rootOf f a = DS.rootOf f b ↔ DS.rootOf f' a = DS.rootOf f' b) :=
  W1 ho ho' vs hw

/-- Same layout. -/
theorem C02_words_layout_order_free {o o' : Orders} (ho : OrdersOk o) (ho' : OrdersOk o') (vs : List SV)
    (hw : WordOnly (infOf vs) (nvarsOf vs)) {fuel fuel' : Nat}
    {l l' : List (Layout.Entry JsonModel.AbiType)} :
    (analyseLifted o fuel vs).outcome = .layout l →
    (analyseLifted o' fuel' vs).outcome = .layout l' → l = l' :=
  W3 ho ho' vs hw

/-- A layout returned under one order and budget is returned under every other order, for every
budget of at least two rounds. -/
theorem C02_words_layout_exists_everywhere {o o' : Orders} (ho : OrdersOk o) (ho' : OrdersOk o') (vs : List SV)
    (hw : WordOnly (infOf vs) (nvarsOf vs)) {fuel fuel' : Nat}
    {l : List (Layout.Entry JsonModel.AbiType)} :
    (analyseLifted o fuel vs).outcome = .layout l → 2 ≤ fuel' →
    (analyseLifted o' fuel' vs).outcome = .layout l :=
  W3_exists ho ho' vs hw

/-- The whole outcome (layout or fault) is the same from two rounds on. -/
theorem C02_words_outcome_order_free {o o' : Orders} (ho : OrdersOk o) (ho' : OrdersOk o') (vs : List SV)
    (hw : WordOnly (infOf vs) (nvarsOf vs)) {fuel fuel' : Nat} (hf : 2 ≤ fuel) (hf' : 2 ≤ fuel') :
    (analyseLifted o fuel vs).outcome = (analyseLifted o' fuel' vs).outcome :=
  W3_outcome ho ho' vs hw hf hf'

/-! Non-vacuity (in `Lemmas/OrderFreeWords.lean`, audited under these names): `revOrders_ok` (reversing
every list is an admissible order, different from the identity), `W5_AB` and `W5_C` (the layouts of
`[sstore(1, callvalue), sstore(2, caller)]` and of a contradictory pair under the reversed order,
obtained through the theorem from the identity-order run), `W5_agree`. -/

end SLE.C02
