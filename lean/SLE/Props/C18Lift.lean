import SLE.Lemmas.LiftSize
/-!
# C18 through the lifting passes

`Props/C18.lean` covers the culling constructor, folding and the generic transformer;
`C18Machine.lean` every value the machine produces.  Here: each of the nine concrete lifting passes
keeps "recorded size = number of nodes" at every node — including the one pass that turns a leaf
into a tree (a constant recognised as the Keccak image of a slot number becomes `sha3(n)`, and every
ancestor's size has to follow) — and hence every value handed to registration, for every program,
configuration and budget, reports its true size.
-/
namespace SLE.C18L
open SLE SLE.SV SLE.Lift SLE.VM SLE.LiftSize

/-- All nine passes together. -/
theorem C18_lift_size_true (h : HashCtx) (v v' : SV) (hv : WF v) (hl : liftAll h v = .ok v') :
    WF v' ∧ v'.recSize = nodeCount v' :=
  ⟨liftAll_wf h v v' hv hl, liftAll_size h v v' hv hl⟩

/-- The hashed-slot pass (leaf → tree). -/
theorem C18_slot_hash_pass_size_true (h : HashCtx) (v : SV) (hv : WF v) : WF (transform (slotHashesT h) v) :=
  LiftShape.transform_inv treeInv_WF _
    (fun _ => LiftInv.slotHashesT_inv (fun _ => VMSize.wf_rebuild' fun _ hx => nomatch hx)
      (fun _ => VMSize.wf_rebuild') h) v hv

/-- Every value the machine hands to the type checker is truthfully sized … -/
theorem C18_program_values_size_true (cfg : Cfg) (code : List Disasm.Instr) (fuel : Nat) :
    ∀ v ∈ (VM.run cfg code fuel (VM.initVM cfg code)).stored.flatMap (fun t => Pipe.allValues t.d), WF v :=
  program_values_wf cfg code fuel

/-- … and so is every value after de-duplication and lifting. -/
theorem C18_program_lifted_size_true (h : HashCtx) (cfg : Cfg) (code : List Disasm.Instr) (fuel : Nat)
    (lifted : List SV)
    (hl : TC.liftValues h (TC.uniqueSV
      ((VM.run cfg code fuel (VM.initVM cfg code)).stored.flatMap (fun t => Pipe.allValues t.d)))
        = .ok lifted) :
    ∀ v ∈ lifted, WF v ∧ v.recSize = nodeCount v := by
  intro v hv
  have := lifted_values_wf h _ lifted (program_values_wf cfg code fuel) hl v hv
  exact ⟨this, SLE.C18.C18_size_eq_nodeCount v this⟩

end SLE.C18L
