import SLE.Lemmas.Merge
import SLE.Lemmas.MergePacked
import SLE.Gen.MergeTable
/-!
# C16 — combining typing evidence is independent of order and grouping

Property theorems over M5 (`SLE.Merge.merge`, mirror of `unification::merge`) on the
`Equal`-free, packed-free fragment — for *every* width, variable and array length, a superset of
the property's finite evidence domain.  Outcomes are compared with `OutEq`: up to the wording of
conflict explanations and to the choice of representative among the variables an outcome equates.

Commutativity holds in full.  Associativity does **not** hold for the pinned implementation
(finding D11); the region where it fails is characterised exactly by the decidable predicate
`Bad` (`C16_assoc_fails_iff`), so a non-associativity outside that region is a new violation.
-/
namespace SLE.C16
open SLE SLE.MergeLaws

/-- The usage lattice is commutative, associative (conflict absorbing) and idempotent. -/
theorem C16_usage_table :
    (∀ a b : WordUse, a.merge b = b.merge a) ∧
    (∀ a b c : WordUse, (a.merge b).bind (·.merge c) = (b.merge c).bind (a.merge ·)) ∧
    (∀ a : WordUse, a.merge a = some a) :=
  ⟨wordUse_merge_comm, wordUse_merge_assoc, wordUse_merge_idem⟩

/-- On `Equal`-free input `merge` never reaches its two `panic!` arms; on the fragment it ignores
`parent`/the variable counter and emits no judgements or fresh variables. -/
theorem C16_merge_total (a b : TE) (ha : PF a = true) (hb : PF b = true) (p n : Nat) :
    ∃ m, Merge.merge a b p n = .ok m ∧ m.expr = (outcome a b).1 ∧ m.eqs = (outcome a b).2 ∧
      m.judgements = [] ∧ m.newVars = [] ∧ m.next = n :=
  merge_pf_indep a b ha hb p n

/-- The fragment is closed under merging. -/
theorem C16_closed (a b : TE) (ha : PF a = true) (hb : PF b = true) : PF (outcome a b).1 = true :=
  outcome_pf a b ha hb

/-- Order independence (full). -/
theorem C16_comm (a b : TE) (ha : PF a = true) (hb : PF b = true) :
    OutEq (outcome a b) (outcome b a) := merge_comm a b ha hb

/-- Grouping independence holds exactly outside the absorber region `Bad`. -/
theorem C16_assoc_fails_iff (a b c : TE) (ha : PF a = true) (hb : PF b = true) (hc : PF c = true) :
    OutEq (groupL a b c) (groupR a b c) ↔ Bad a b c = false := merge_assoc_iff a b c ha hb hc

/-- Grouping independence, the provable part of the full statement
`∀ a b c, OutEq (groupL a b c) (groupR a b c)`. -/
theorem C16_assoc_partial (a b c : TE) (ha : PF a = true) (hb : PF b = true) (hc : PF c = true)
    (h : Bad a b c = false) : OutEq (groupL a b c) (groupR a b c) := merge_assoc_partial a b c ha hb hc h

/-- The full statement is false of the pinned code: dynamic bytes swallow a `bool` and an
`address` that conflict with each other (replayed on the implementation as the known finding). -/
theorem C16_assoc_fails_on_pinned :
    ¬ OutEq (groupL .bytes (.word (some 8) .bool) (.word (some 160) .address))
            (groupR .bytes (.word (some 8) .bool) (.word (some 160) .address)) := by
  rw [merge_assoc_iff _ _ _ rfl rfl rfl]
  decide

/-! ### Non-vacuity -/
example : PF (.mapping 0 1) = true ∧ PF (.word none .numeric) = true := by decide
example : Bad (.mapping 0 1) (.mapping 1 0) (.word (some 8) .bool) = false := by decide
example : Bad .bytes (.word (some 8) .bool) (.word (some 160) .address) = true := by decide


/-! ### Including packed encodings -/

/-- Commutativity holds on ALL type expressions, packed encodings included: the two orders give
the same expression, the same fresh variables with the same numbers, and the same emitted
equalities and judgements up to their order. -/
theorem C16_comm_all (a b : TE) : OutEq (outcome a b) (outcome b a) := MergePacked.merge_comm_all a b

/-- Grouping is where the packed arms fail (finding D18): the same three pieces of evidence end in
the encoding or in a conflict depending on which two meet first. -/
theorem C16_assoc_fails_with_packed_on_pinned :
    (groupL (.packed [⟨1, 0, 8⟩] false) (.word (some 8) .bool) (.word (some 8) .address)).1
        = .packed [⟨1, 0, 8⟩] false ∧
    (groupR (.packed [⟨1, 0, 8⟩] false) (.word (some 8) .bool) (.word (some 8) .address)).1
        = .conflict := by
  constructor <;> rfl


/-! ### The tie, exhaustively on the property's domain -/

/-- what the model's `merge` returns for parent variable 9 in a state with ten variables -/
def mergeRow (a b : TE) : Option (TE × List (Nat × Nat) × List (Nat × TE) × List Nat) :=
  match Merge.merge a b 9 10 with
  | .ok m => some (m.expr, m.eqs, m.judgements, m.newVars)
  | .error _ => none

/-- On every ordered pair of the evidence domain the property names (all usages × the widths
{?, 8, 32, 160, 192, 256}, any, dynamic bytes, mappings, fixed and dynamic arrays, conflict) extended
with ten packed encodings — 48 × 48 pairs — the model's `merge` returns exactly what the code's
`merge` returns: expression, emitted equalities, emitted judgements and fresh variables, in order.
The table is regenerated by executing the code on every run; the kernel decides the equality. -/
theorem C16_merge_table :
    (SLE.Gen.mergeTable.all (fun r =>
      decide (mergeRow r.1 r.2.1 = some (r.2.2.1, r.2.2.2.1, r.2.2.2.2.1, r.2.2.2.2.2)))) = true := by
  decide +kernel

end SLE.C16
