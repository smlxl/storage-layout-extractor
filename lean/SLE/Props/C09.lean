import SLE.Lemmas.Word
import SLE.Lemmas.Fold
import SLE.Gen.FoldArms
/-!
# C09 — simplifying a symbolic expression never changes what it denotes

Property theorems only.  Models: `SLE.Known` (KnownWord operators as the Rust computes them),
`SLE.Spec` (the EVM, from the Yellow Paper), `SLE.SV.fold` (`constant_fold`), `SLE.SV.eval`
(denotation under an arbitrary interpretation of everything that is not a foldable operator).
-/
namespace SLE.C09
open SLE SLE.SV SLE.WordLemmas

/-- Each of the 19 binary foldable operators computes, on every pair of 256-bit constants,
exactly the EVM result: division and modulo by zero, `MIN / −1`, shifts by 256 or more and
exponents above 2³² are points of this theorem. -/
theorem C09_word_ops_correct_bin (k : Kind) : knownBin k = specBin k := by
  have e {f g : Word → Word → Word} (h : ∀ a b, f a b = g a b) : some f = some g :=
    congrArg some (funext fun a => funext (h a))
  cases k
  case add => exact e add_eq
  case multiply => exact e mul_eq
  case subtract => exact e sub_eq
  case divide => exact e div_eq
  case signedDivide => exact e signedDiv_eq
  case modulo => exact e rem_eq
  case signedModulo => exact e signedRem_eq
  case exp => exact e exp_eq
  case lessThan => exact e lt_eq
  case greaterThan => exact e gt_eq
  case signedLessThan => exact e signedLt_eq
  case signedGreaterThan => exact e signedGt_eq
  case equals => exact e eq_eq
  case and_ => exact e and_eq
  case or_ => exact e or_eq
  case xor_ => exact e xor_eq
  case leftShift => exact e shl_eq
  case rightShift => exact e shr_eq
  case arithmeticRightShift => exact e sar_eq
  all_goals rfl

/-- …and the 2 unary ones. -/
theorem C09_word_ops_correct_un (k : Kind) : knownUn k = specUn k := by
  cases k
  case isZero => exact congrArg some (funext isZero_eq)
  case not_ => exact congrArg some (funext not_eq)
  all_goals rfl

/-- Folding preserves the denotation of every tree under every interpretation of its opaque
leaves and uninterpreted node kinds. -/
theorem C09_fold_eval (I : Interp) (t : SV) : eval I (fold t) = eval I t :=
  fold_eval I C09_word_ops_correct_bin C09_word_ops_correct_un t

/-- At every node, folding yields either a constant (only when the node is a foldable operator
all of whose folded operands are constants) or the *same operator* with the *same payload*
over the folded operands *in the same positions*. -/
theorem C09_fold_shape (k : Kind) (attrs : List Nat) (ks : List SV) (s : Nat) :
    (∃ w, fold (.node k attrs ks s) = mkKnown w ∧ (∀ a ∈ foldList ks, (a.asWord).isSome) ∧
        ((knownBin k).isSome ∨ (knownUn k).isSome)) ∨
    fold (.node k attrs ks s) = rebuild k attrs (foldList ks) := by
  rw [fold]; exact foldNode_shape k attrs (foldList ks)

/-- A sub-expression built only from constants is replaced by the operator's value. -/
theorem C09_fold_constants (k : Kind) (f : Word → Word → Word) (hk : knownBin k = some f)
    (attrs : List Nat) (x y : Word) (s : Nat) :
    fold (.node k attrs [mkKnown x, mkKnown y] s) = mkKnown (f x y) := by
  have hx : (mkKnown x).asWord = some x := by simp [mkKnown, asWord]
  have hy : (mkKnown y).asWord = some y := by simp [mkKnown, asWord]
  have hfx : fold (mkKnown x) = mkKnown x := fold_mkKnown x
  have hfy : fold (mkKnown y) = mkKnown y := fold_mkKnown y
  simp only [fold, foldList] at *
  rw [hfx, hfy]
  simp only [foldNode, hk, hx, hy]

/-- Folding is idempotent. -/
theorem C09_fold_idem (t : SV) : fold (fold t) = fold t := fold_idem t

/-! ### Tie to the regenerated arm table (re-decided on every run) -/

def K7 : SV := mkKnown 7#256
def K3 : SV := mkKnown 3#256
def V0 : SV := mkValue 0
def V1 : SV := mkValue 1

def foldableKinds : List Kind :=
  [.add, .multiply, .subtract, .divide, .signedDivide, .modulo, .signedModulo, .exp, .lessThan,
   .greaterThan, .signedLessThan, .signedGreaterThan, .equals, .and_, .or_, .xor_, .leftShift,
   .rightShift, .arithmeticRightShift, .isZero, .not_]

def isUnary (k : Kind) : Bool := k == .isZero || k == .not_

def armInput (k : Kind) (pat : Nat) : SV :=
  if isUnary k then rebuild k [] [if pat = 0 then K7 else V0]
  else match pat with
    | 0 => rebuild k [] [K7, K3]
    | 1 => rebuild k [] [K7, V0]
    | 2 => rebuild k [] [V0, K3]
    | _ => rebuild k [] [V0, V1]

def armRow (k : Kind) (pat : Nat) : Nat × Nat × Nat × List Nat × Nat × Nat :=
  let r := fold (armInput k pat)
  (k.idx, pat, r.kind.idx, r.kids.map (fun c => c.kind.idx),
    (match r.asWord with | some w => w.toNat | none => 0), r.recSize)

def modelArms : List (Nat × Nat × Nat × List Nat × Nat × Nat) :=
  foldableKinds.flatMap (fun k =>
    (if isUnary k then [0, 1] else [0, 1, 2, 3]).map (fun p => armRow k p))

/-- What the *current Rust* `constant_fold` returns on every foldable kind × operand pattern
(constant/constant, constant/opaque, opaque/constant, opaque/opaque) equals the model's. -/
theorem C09_arms : SLE.Gen.foldArms = modelArms := by decide +kernel

/-! ### Non-vacuity -/
example : (fold (rebuild .multiply [] [K3, V0])).beq (rebuild .multiply [] [K3, V0]) = true := by decide +kernel
/-- the exponent is not truncated to 32 bits: 3 ^ 2³² is not 1 -/
example : Known.exp 3#256 (BitVec.ofNat 256 (2 ^ 32)) ≠ 1#256 := by decide +kernel
/-- a constant shift by 256 is zero, not a panic and not a masked shift -/
example : Known.shl 256#256 1#256 = 0#256 := by decide +kernel

end SLE.C09
