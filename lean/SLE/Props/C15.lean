import SLE.Lemmas.Join
/-!
# C15 — compatible evidence joins to its most specific type; contradictions conflict

Property theorems over M5.  The resolved type of a class is `foldMerge` of its evidence in some
order.  `wordLe` is the specificity order on words (`unknown width ⊑ known width`,
`bytes ⊑ everything`, `numeric ⊑ unsigned ⊑ address`, `numeric ⊑ signed`).
-/
namespace SLE.C15
open SLE SLE.MergeLaws SLE.Layout SLE.Join

/-- The usage merge is the least upper bound of the specificity order, and fails exactly when
there is no upper bound. -/
theorem C15_usage_lub (a b : WordUse) :
    (∀ c, a.merge b = some c → useLe a c = true ∧ useLe b c = true ∧
      ∀ d, useLe a d = true → useLe b d = true → useLe c d = true) ∧
    (a.merge b = none → ¬ ∃ d, useLe a d = true ∧ useLe b d = true) :=
  ⟨fun c h => useMerge_lub a b c h, useMerge_none a b⟩

/-- Two words merge to their least upper bound, and to a conflict exactly when they have none
(two different known widths, or usages without a join). -/
theorem C15_word_join (w1 u1 w2 u2) :
    ((outcome (.word w1 u1) (.word w2 u2)).1 = .conflict ↔
      (∃ a b, w1 = some a ∧ w2 = some b ∧ a ≠ b) ∨ u1.merge u2 = none) ∧
    ((∃ d, wordLe (.word w1 u1) d = true ∧ wordLe (.word w2 u2) d = true) →
      ∃ w u, outcome (.word w1 u1) (.word w2 u2) = (.word w u, []) ∧
        wordLe (.word w1 u1) (.word w u) = true ∧ wordLe (.word w2 u2) (.word w u) = true ∧
        ∀ d, wordLe (.word w1 u1) d = true → wordLe (.word w2 u2) d = true → wordLe (.word w u) d = true) :=
  ⟨word_join_conflict_iff' w1 u1 w2 u2, word_join_lub w1 u1 w2 u2⟩

/-- Mutually compatible word evidence (everything below some word `T`) resolves — in every
order — to a non-conflict `j` above every piece of evidence and below every such `T`: the known
width and the most specific usage present are kept, nothing more is invented. -/
theorem C15_consistent_no_conflict (l : List TE) (T : TE) (hne : l ≠ [])
    (hw : ∀ e ∈ l, (∃ w u, e = .word w u) ∨ e = .any) (hT : ∃ w u, T = .word w u)
    (hle : ∀ e ∈ l, wordLe e T = true) :
    ∃ j q, foldMerge l = some (j, q) ∧ j ≠ .conflict ∧ (∀ e ∈ l, wordLe e j = true) ∧ wordLe j T = true :=
  consistent_words_join l T hne hw hT hle

/-- Mappings keep their structure and all their components are equated (likewise arrays). -/
theorem C15_mappings_join (l : List TE) (hne : l ≠ [])
    (hm : ∀ e ∈ l, (∃ k v, e = .mapping k v) ∨ e = .any) (hex : ∃ k v, .mapping k v ∈ l) :
    ∃ k v q, foldMerge l = some (.mapping k v, q) ∧ .mapping k v ∈ l ∧
      ∀ k' v', .mapping k' v' ∈ l → Equiv q k k' ∧ Equiv q v v' := by
  obtain ⟨k, v, hm'⟩ := hex
  obtain ⟨_, q, hf, hr, ⟨k, v, rfl⟩, hE⟩ := kind_mapping.join_all l hne hm ⟨_, hm', k, v, rfl⟩
  exact ⟨k, v, q, hf, hr, fun k' v' h => hE _ h ⟨k', v', rfl⟩⟩

theorem C15_dynarrays_join (l : List TE) (hne : l ≠ [])
    (hm : ∀ e ∈ l, (∃ a, e = .dynamicArray a) ∨ e = .any) (hex : ∃ a, .dynamicArray a ∈ l) :
    ∃ a q, foldMerge l = some (.dynamicArray a, q) ∧ .dynamicArray a ∈ l ∧
      ∀ a', .dynamicArray a' ∈ l → Equiv q a a' := by
  obtain ⟨a, hm'⟩ := hex
  obtain ⟨_, q, hf, hr, ⟨a, rfl⟩, hE⟩ := kind_dynarray.join_all l hne hm ⟨_, hm', a, rfl⟩
  exact ⟨a, q, hf, hr, fun a' h => hE _ h ⟨a', rfl⟩⟩

/-- Plain contradictions (two pieces of evidence that conflict pairwise) make the class a
conflict in every order, on evidence without an absorbing constructor … -/
theorem C15_contradiction_conflicts (l : List TE) (hpf : ∀ e ∈ l, PF e = true)
    (hab : ∀ e ∈ l, absorber e = false) (h : ∃ a ∈ l, ∃ b ∈ l, conflicts a b = true) :
    ∃ q, foldMerge l = some (.conflict, q) :=
  contradiction_conflicts l hpf hab h

/-- … and a mapping against anything that is not a mapping conflicts unconditionally. -/
theorem C15_mapping_contradiction (l : List TE) (hpf : ∀ e ∈ l, PF e = true) (k v : Nat)
    (hm : .mapping k v ∈ l) (x : TE) (hx : x ∈ l) (hx1 : x ≠ .any)
    (hx2 : ∀ k' v', x ≠ .mapping k' v') : ∃ q, foldMerge l = some (.conflict, q) :=
  mapping_contradiction_conflicts l hpf k v hm x hx hx1 hx2

/-- The full statement (without the absorber hypothesis) is false of the pinned code (D11). -/
theorem C15_contradiction_swallowed_on_pinned :
    foldMerge [.bytes, .word (some 8) .bool, .word (some 160) .address] = some (.bytes, []) ∧
    conflicts (.word (some 8) .bool) (.word (some 160) .address) = true :=
  ⟨contradiction_swallowed_witness, contradiction_swallowed_witness_conflicts⟩

/-! ### Non-vacuity -/
example : wordLe (.word none .numeric) (.word (some 160) .address) = true := by decide
example : conflicts (.word (some 8) .numeric) (.word (some 16) .numeric) = true := by decide

end SLE.C15
