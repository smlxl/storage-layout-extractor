import SLE.Lemmas.TCSlots
import SLE.Lemmas.LiftInv
import SLE.Lemmas.Idioms
import SLE.Lemmas.Layout
import SLE.Lemmas.MergePacked
/-!
# C12 — returned layouts are ordered and every entry lies inside its slot

Over the pipeline model `TC.analyse` (tied to the code by family `tc`) and the lifting passes
(`Lift.liftAll`, family `lift`).
-/
namespace SLE.C12
open SLE SLE.SV SLE.TC SLE.TCSpec SLE.Lift

/-- The rows of every returned layout are ordered by slot index and, within a slot, by offset. -/
theorem C12_sorted (h : HashCtx) (o : Unify.Orders) (fuel : Nat) (vs : List SV)
    (l : List (Layout.Entry JsonModel.AbiType)) :
    (analyse h o fuel vs).outcome = .layout l → Layout.Sorted l := by
  intro hl
  obtain ⟨_, _, es, _, _, rfl⟩ := TCSlots.analyse_layout h o fuel vs l hl
  exact Layout.buildLayout_sorted es

/-- `StorageLayout::add` keeps any already sorted layout sorted (insertion after a stable sort). -/
theorem C12_add_sorted (es : List (Layout.Entry JsonModel.AbiType)) : Layout.Sorted (Layout.buildLayout es) :=
  Layout.buildLayout_sorted es

/-- Lifting never produces a sub-word or shifted span outside the 256-bit word, for mask
positions and shift amounts anywhere in 0..2^256 (this is where offsets of packed entries come
from). -/
theorem C12_lift_spans (h : HashCtx) (v v' : SV) (hraw : Raw v) :
    liftAll h v = .ok v' → spansInWord v' = true :=
  LiftInv.lift_spans h v v' hraw

/-- The masked-word rule turns such a sub-word into a span with the same bounds: the span it
adds for `subWord [off, size]` is `⟨t, off, size⟩`. -/
theorem C12_rule_span (st : RegState) (off size : Nat) (sub : TV) (t : Nat) :
    (sub.tv, TE.packed [⟨t, off, size⟩] false) ∈
      (applyRules st (.node .subWord [off, size] [sub] t)).judgements :=
  (Idioms.rule_subword st off size sub t).2.1


/-- Combining evidence keeps spans inside the word: if every span of the two inputs ends at or
before bit 256 (and sized words are at most 256 wide), so does every span of the result and of
every judgement the merge emits — re-partitioning on boundaries never creates a span outside the
word. (The out-of-slot entries of finding D20 come from nesting at rendering time.) -/
theorem C12_merge_keeps_spans_in_word (a b : TE) (p n : Nat) (m : MergeOut)
    (ha : MergePacked.WOk a) (hb : MergePacked.WOk b) (h : Merge.merge a b p n = .ok m) :
    MergePacked.WOk m.expr ∧ ∀ j ∈ m.judgements, MergePacked.WOk j.2 := by
  have := MergePacked.merge_wsafeR a b p n ha hb
  rw [h] at this
  exact this

/-! The end-to-end statement (`offset + width ≤ 256` for every rendered entry) additionally needs
an invariant of unification on packed spans; it is carried by the oracle of families `tc`,
`pipeline`, `idiom` on the implementation's own layouts (the bound is checked there, not proved). -/

/-! ### Non-vacuity -/
example : Layout.Sorted (Layout.buildLayout
    [(⟨5, 8, JsonModel.AbiType.bool⟩ : Layout.Entry JsonModel.AbiType), ⟨2, 0, .address⟩, ⟨5, 0, .bool⟩]) :=
  Layout.buildLayout_sorted _

end SLE.C12
