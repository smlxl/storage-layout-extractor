import SLE.Lemmas.Fold
/-!
# C18 — values stay within the size limit and report their true size

Property theorems over M3 (`SLE.SV`): `mk` = the culling constructor `RSV::new`, `fold` =
`constant_fold`, `transform` = `transform_data` (what every lifting pass is written with).
`WF t` says every node of `t` records its true node count.
-/
namespace SLE.C18
open SLE SLE.SV

/-- The culling constructor records the true size of what it returns. -/
theorem C18_size_true_mk (limit : Option Nat) (fresh : Nat) (k : Kind) (attrs : List Nat)
    (ks : List SV) (h : WFList ks) : WF (mk limit fresh k attrs ks) := wf_mk limit fresh k attrs ks h

/-- in particular `size()` = real node count -/
theorem C18_size_eq_nodeCount (t : SV) (h : WF t) : t.recSize = nodeCount t := by
  cases t with
  | node k a ks s => simp only [WF] at h; simp [recSize, nodeCount, h.1]

/-- A value built under limit `lim` has at most `max lim 1` nodes. -/
theorem C18_bounded (lim fresh : Nat) (k : Kind) (attrs : List Nat) (ks : List SV)
    (h : WFList ks) : nodeCount (mk (some lim) fresh k attrs ks) ≤ max lim 1 :=
  nodeCount_mk_le lim fresh k attrs ks h

/-- A value derived from (possibly culled) values is culled exactly when it really grows past
the limit again, and otherwise keeps its operator with its true size. -/
theorem C18_recull (lim fresh : Nat) (k : Kind) (attrs : List Nat) (ks : List SV) (h : WFList ks) :
    (nodeCountList ks + 1 ≤ lim → mk (some lim) fresh k attrs ks = .node k attrs ks (nodeCountList ks + 1)) ∧
    (lim < nodeCountList ks + 1 → mk (some lim) fresh k attrs ks = mkValue fresh) := by
  have hc := childSize_eq_nodeCountList ks h
  unfold mk
  simp only [hc]
  constructor
  · intro hle
    have : ¬ (nodeCountList ks + 1 > lim) := by omega
    simp [this]
  · intro hlt
    have : nodeCountList ks + 1 > lim := by omega
    simp [this, mkValue]

/-- Folding yields true sizes at every node (whatever the input recorded). -/
theorem C18_fold_size_true (t : SV) : WF (fold t) := wf_fold t

/-- Folding never grows a tree, so a folded value stays within whatever bound it met. -/
theorem C18_fold_no_growth (t : SV) : nodeCount (fold t) ≤ nodeCount t := nodeCount_fold_le t

/-- Every transformer built from `transform_data` that hands back well-formed kids preserves
true sizes (the shape of every lifting pass). -/
theorem C18_transform_size_true (f : Transformer)
    (hf : ∀ k a ks k' a' ks', WFList ks → f k a ks = some (k', a', ks') → WFList ks')
    (t : SV) (h : WF t) : WF (transform f t) := wf_transform f hf t h

/-! ### Non-vacuity -/
example : WF (mk (some 3) 9 .add [] [mkKnown 1#256, mkValue 0]) := by
  simp [mk, childSize, mkKnown, mkValue, recSize, WF, WFList, nodeCountList, nodeCount]
example : mk (some 2) 9 .add [] [mkKnown 1#256, mkValue 0] = mkValue 9 := by
  simp [mk, childSize, mkKnown, mkValue, recSize]

end SLE.C18
