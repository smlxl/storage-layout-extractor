import SLE.Lemmas.VMControl
import SLE.Props.C10
import SLE.Lemmas.MachineFacts
import SLE.Lemmas.PathSim
import SLE.Lemmas.LitInv
/-!
# C08 — control flow is followed exactly as the EVM allows

Property theorems over M4 + M2.  A control transfer is the `jumpTo` of a JUMP or the fork of a
JUMPI; `ValidTarget code d tgt` says the value popped from the stack folds to a constant whose
*whole 256-bit value* is `tgt`, `tgt` is inside the code and the stream entry there is JUMPDEST.
-/
namespace SLE.C08
open SLE SLE.VM SLE.Disasm SLE.C10

/-- JUMP: taken only to a target validated against the full 256-bit operand. -/
theorem C08_jump_valid {cfg : Cfg} {code : List Instr} {s : VMS} {t : Thread} {rest : List Thread}
    {ins : Instr} {tgt : Nat} (hq : s.queue = t :: rest) (hi : code[t.ip]? = some ins)
    (he : (opOut cfg code s t ins).err = none) (hj : (opOut cfg code s t ins).jumpTo = some tgt) :
    ins = .op 0x56 ∧ ValidTarget code t.d tgt ∧ code[tgt]? = some (.op 0x5b) :=
  let h := jump_valid hq hi he hj; ⟨h.1, h.2.1, h.2.2.1⟩

/-- JUMPI: the branch target is validated the same way; while neither this path's visit limit
for the target nor the target's fork limit is reached, a thread *is* enqueued at the target and
the current thread carries on (both branches explored). -/
theorem C08_both_branches {cfg : Cfg} {code : List Instr} {s : VMS} {t : Thread} {rest : List Thread}
    {ins : Instr} {tgt : Nat} (hq : s.queue = t :: rest) (hi : code[t.ip]? = some ins)
    (he : (opOut cfg code s t ins).err = none) (hf : (opOut cfg code s t ins).forkTo = some tgt) :
    let o := opOut cfg code s t ins
    let child : Thread :=
      { ip := tgt, visited := bump t.visited t.ip, gas := t.gas, d := { o.d with forkPoint := t.ip } }
    ins = .op 0x57 ∧ ValidTarget code t.d tgt ∧ code[tgt]? = some (.op 0x5b) ∧
    (midOk cfg s t rest ins o).queue =
      (if forkOk cfg (bump t.visited t.ip) s.forks tgt then after t ins o :: rest ++ [child]
       else after t ins o :: rest) := by
  have h := fork_valid hq hi he hf
  exact ⟨h.1, h.2.1, h.2.2.1, h.2.2.2.2.1⟩

/-- STOP, RETURN, REVERT, SELFDESTRUCT, INVALID, unassigned bytes (and any instruction that
errors) end the path: the thread leaves the queue in that very step. -/
theorem C08_halts_end_path {cfg : Cfg} {code : List Instr} {s : VMS} {t : Thread}
    {rest : List Thread} {ins : Instr} (hq : s.queue = t :: rest) (hi : code[t.ip]? = some ins)
    (h : ((opOut cfg code s t ins).err = none ∧ (opOut cfg code s t ins).kill = true) ∨
      ∃ e, (opOut cfg code s t ins).err = some e ∧ ∀ site, e ≠ .panic site) :
    ∃ t', t'.ip = t.ip ∧ (step cfg code s).queue = rest ∧ (step cfg code s).stored = s.stored ++ [t'] := by
  obtain ⟨t', h1, _, h3, h4⟩ := halt_ends_path hq hi h
  exact ⟨t', h1, h3, h4⟩

/-- Which instructions halt. -/
theorem C08_kill_ops (c : Ctx) (code : List Instr) (d : TData) (ctr : Nat) :
    (∀ ins, (ins = .op 0x00 ∨ ins = .op 0xfe ∨ ∃ b, ins = .invalid b) →
      (execOp c code ins d ctr).kill = true ∧ (execOp c code ins d ctr).err = none) ∧
    (∀ ins, (ins = .op 0xf3 ∨ ins = .op 0xfd ∨ ins = .op 0xff) →
      (execOp c code ins d ctr).err = none → (execOp c code ins d ctr).kill = true) := by
  constructor
  · rintro ins (rfl | rfl | ⟨b, rfl⟩)
    · exact ⟨rfl, rfl⟩
    · exact ⟨rfl, rfl⟩
    · exact ⟨rfl, rfl⟩
  · rintro ins (rfl | rfl | rfl) he
    · exact kill_ops_halt c code d ctr _ (.inl rfl) he
    · exact kill_ops_halt c code d ctr _ (.inr (.inl rfl)) he
    · exact kill_ops_halt c code d ctr _ (.inr (.inr rfl)) he

/-- With C10: a stream entry is JUMPDEST only where the *EVM's own scan* of the bytes finds a
`0x5b` that is not push data — so a validated target is an instruction boundary, never inside
an immediate. -/
theorem C08_target_is_evm_jumpdest (bs : List UInt8) (code : List Instr)
    (h : disasm (toNats bs) = .ok code) (tgt : Nat) (ht : code[tgt]? = some (.op 0x5b)) :
    (toNats bs)[tgt]? = some 0x5b ∧ (pushDataMask (toNats bs))[tgt]? = some false :=
  (C10_jumpdest_iff bs code h tgt).mp ht

/-! ### Non-vacuity -/
example : validateJump [.push 1 [3], .nop, .op 0x56, .op 0x5b] (SV.mkKnown 3#256) = .ok 3 := by rfl
example : validateJump [.push 1 [3], .nop, .op 0x56, .op 0x5b]
    (SV.mkKnown (BitVec.ofNat 256 (2 ^ 32 + 3))) = .error .nonExistentJumpTarget := by rfl


/-- The model's notion of a valid jump destination (a JUMPDEST entry of the instruction stream)
is the reference EVM's (a 0x5b byte that is not push data, by the EVM's own scan of the bytes). -/
theorem C08_validDest_iff_evm (bs : List UInt8) (code : List Disasm.Instr)
    (hne : bs ≠ []) (hlen : bs.length < 2 ^ 32)
    (h : Disasm.disasm (C10.toNats bs) = .ok code) (t : Nat) :
    EVM.validDest (C10.toNats bs).toArray
        (EVM.pushData (C10.toNats bs).toArray ((C10.toNats bs).length + 1) 0 []) t = true
      ↔ code[t]? = some (.op 0x5b) :=
  MachineFacts.validDest_iff_stream_jumpdest bs code hne hlen h t

/-- A jump is accepted exactly when the whole popped constant is an EVM-valid destination. -/
theorem C08_validateJump_iff_evm (bs : List UInt8) (code : List Disasm.Instr)
    (hne : bs ≠ []) (hlen : bs.length < 2 ^ 32)
    (h : Disasm.disasm (C10.toNats bs) = .ok code) (counter : SV) (w : Word)
    (hw : VM.isKnown (SV.fold counter) = some w) (t : Nat) :
    VM.validateJump code counter = .ok t ↔
      (w.toNat = t ∧ EVM.validDest (C10.toNats bs).toArray
          (EVM.pushData (C10.toNats bs).toArray ((C10.toNats bs).length + 1) 0 []) t = true) :=
  MachineFacts.validateJump_iff_evm bs code hne hlen h counter w hw t


/-! ### Set level: what the machine executes is what the EVM can reach -/

/-- Soundness of exploration: for every program over the instruction subset of C07 (no
SIGNEXTEND/ADDMOD/MULMOD/BYTE) whose storage keys, memory offsets and jump targets are pushed
immediately before use (`PushGuarded`), every configuration and every number of iterations, every
offset some thread has executed is reachable for the reference EVM on some path (a JUMPI may go
either way). `RReach` is the reflexive-transitive closure of the reference machine's step
relation from `(0, {})`, and every such step is one unfolding of `EVM.explore`. -/
theorem C08_executed_is_evm_reachable {bytes : List Nat} {code : List Disasm.Instr}
    (H : PathSim.Prog bytes code) (hsc : PathSim.InScope bytes) (hg : PathSim.PushGuarded code)
    (cfg : VM.Cfg) (hlim : 1 ≤ cfg.valueLimit) (fuel : Nat) :
    ∀ t ∈ (VM.run cfg code fuel (VM.initVM cfg code)).queue ++ (VM.run cfg code fuel (VM.initVM cfg code)).stored,
      ∀ i ins, t.visited.getD i 0 ≠ 0 → code[i]? = some ins → ins ≠ .nop →
        ∃ cs, PathSim.RReach (PathSim.arr bytes) (PathSim.dat bytes) (i, cs) :=
  PathSim.executed_is_evm_reachable_guarded H hsc hg cfg hlim fuel

/-- The same without the syntactic restriction, given that the side conditions of the data
simulation hold along the run (literal keys / offsets, evaluable jump targets). -/
theorem C08_executed_is_evm_reachable_side {bytes : List Nat} {code : List Disasm.Instr}
    (H : PathSim.Prog bytes code) (hsc : PathSim.InScope bytes) (cfg : VM.Cfg)
    (hside : ∀ s, PathSim.MReach cfg code s → PathSim.SideOK code s) (fuel : Nat) :
    ∀ t ∈ (VM.run cfg code fuel (VM.initVM cfg code)).queue ++ (VM.run cfg code fuel (VM.initVM cfg code)).stored,
      ∀ i ins, t.visited.getD i 0 ≠ 0 → code[i]? = some ins → ins ≠ .nop → ins ≠ .op 0x5b →
        ∃ cs, PathSim.RReach (PathSim.arr bytes) (PathSim.dat bytes) (i, cs) :=
  PathSim.executed_is_evm_reachable H hsc cfg hside fuel

/-- Every step of the reference relation is one unfolding of the reference machine's path
enumeration (so `RReach` is about `EVM.explore`, not about a second semantics). -/
theorem C08_RReach_is_explore {code : Array Nat} {data : List Nat} (hb : ∀ i, i < code.size → code[i]! < 256)
    {c : PathSim.Conf} (h : PathSim.RReach code data c) :
    ∀ fuel, ∀ x ∈ EVM.explore {} code data fuel c.1 c.2, ∃ fuel', x ∈ EVM.explore {} code data fuel' 0 {} :=
  PathSim.explore_sound_for_RStep hb h


/-- … and with computed jump targets, jump tables and targets passed on the stack: only storage
keys and memory offsets need to be pushed immediately before use (every literal in every reachable
state is a 256-bit word, so the folded value of a jump target is its concrete value). -/
theorem C08_executed_is_evm_reachable_keys {bytes : List Nat} {code : List Disasm.Instr}
    (H : PathSim.Prog bytes code) (hsc : PathSim.InScope bytes) (hk : LitInv.KeysLiteral code)
    (cfg : VM.Cfg) (hlim : 1 ≤ cfg.valueLimit) (fuel : Nat) :
    ∀ t ∈ (VM.run cfg code fuel (VM.initVM cfg code)).queue ++ (VM.run cfg code fuel (VM.initVM cfg code)).stored,
      ∀ i ins, t.visited.getD i 0 ≠ 0 → code[i]? = some ins → ins ≠ .nop →
        ∃ cs, PathSim.RReach (PathSim.arr bytes) (PathSim.dat bytes) (i, cs) :=
  LitInv.executed_is_evm_reachable_keys H hsc hk cfg hlim fuel

end SLE.C08
