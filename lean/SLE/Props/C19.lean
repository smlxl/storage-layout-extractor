import SLE.Lemmas.VMap
import SLE.Lemmas.DS
/-!
# C19 — the vector map and the union-find forest match their abstract models

Property theorems only.  Models: `SLE.Containers.VMap` (mirror of `VectorMap`) and
`SLE.Containers.DS` (mirror of `DisjointSet`, `Combine` abstract).
The abstraction of a `VMap` is the partial function `fun k => m.get k`.
-/
namespace SLE.C19
open SLE.Containers SLE.Containers.VMap

variable {V : Type}

/-- `insert` then `get` behaves like function update (overwrites included). -/
theorem C19_vm_get_insert (m : VMap V) (k : Nat) (v : V) (i : Nat) :
    (m.insert k v).get i = if i = k then some v else m.get i := get_insert m k v i

/-- `remove` returns the old binding and deletes exactly that key (absent keys included). -/
theorem C19_vm_get_remove (m m' : VMap V) (k : Nat) (r : Option V)
    (h : m.remove k = .ok (m', r)) (i : Nat) :
    r = m.get k ∧ m'.get i = if i = k then none else m.get i := get_remove m m' k r h i

/-- `iter` enumerates exactly the bindings of the abstract map. -/
theorem C19_vm_iter (m : VMap V) (i : Nat) (v : V) : (i, v) ∈ m.iter ↔ m.get i = some v :=
  mem_iter m i v

/-- Operations of the vector map. -/
inductive MOp (V : Type) where
  | insert (k : Nat) (v : V)
  | remove (k : Nat)

/-- Run a history; `none` when the overflow-checked `size -= 1` would panic. -/
def runOps : VMap V → List (MOp V) → Option (VMap V)
  | m, [] => some m
  | m, .insert k v :: r => runOps (m.insert k v) r
  | m, .remove k :: r =>
    match m.remove k with
    | .ok (m', _) => runOps m' r
    | .error _ => none

/-- The abstract map after a history. -/
def specOps : (Nat → Option V) → List (MOp V) → (Nat → Option V)
  | f, [] => f
  | f, .insert k v :: r => specOps (fun i => if i = k then some v else f i) r
  | f, .remove k :: r => specOps (fun i => if i = k then none else f i) r

/-- Every history of inserts, overwrites and removals (absent keys included): no panic,
contents equal the ordinary map's, and the reported length is the number of bindings. -/
theorem C19_vm_history (ops : List (MOp V)) (m : VMap V) (h : WF m) :
    ∃ m', runOps m ops = some m' ∧ WF m' ∧
      (∀ i, m'.get i = specOps (fun i => m.get i) ops i) ∧ m'.len = m'.iter.length := by
  induction ops generalizing m with
  | nil => exact ⟨m, rfl, h, fun _ => rfl, len_eq_iter_length m h⟩
  | cons op ops ih =>
    cases op with
    | insert k v =>
      obtain ⟨m', h1, h2, h3, h4⟩ := ih (m.insert k v) (wf_insert m k v h)
      refine ⟨m', h1, h2, ?_, h4⟩
      intro i; rw [h3]; simp only [specOps]; congr 1; funext j; exact get_insert m k v j
    | remove k =>
      obtain ⟨m1, hr, hwf, hg⟩ := remove_spec m k h
      obtain ⟨m', h1, h2, h3, h4⟩ := ih m1 hwf
      refine ⟨m', by simp [runOps, hr, h1], h2, ?_, h4⟩
      intro i; rw [h3]; simp only [specOps]; congr 1; funext j
      exact hg j

/-- From the empty map in particular. -/
theorem C19_vm_history_empty (ops : List (MOp V)) :
    ∃ m', runOps (VMap.empty : VMap V) ops = some m' ∧
      (∀ i, m'.get i = specOps (fun _ => none) ops i) ∧ m'.len = m'.iter.length := by
  obtain ⟨m', h1, _, h3, h4⟩ := C19_vm_history ops (VMap.empty : VMap V) wf_empty
  refine ⟨m', h1, ?_, h4⟩
  intro i; rw [h3]; congr 1

/-- `remove` cannot underflow the size counter. -/
theorem C19_vm_no_fault (m : VMap V) (k : Nat) (h : WF m) : ∃ r, m.remove k = .ok r :=
  remove_no_fault m k h

/-! ### The union-find forest (statements proved in `SLE/Lemmas/DS.lean`)

`DS.Inv` = both vector maps well-formed + the parent map is acyclic (a rank function exists).
`DS.rootOf` = pure parent chase.  `Naive` = the naive partition: registered elements, a
class-representative function and data per representative — no forest, no compression. -/

section Forest
variable {D : Type}
open SLE.Containers.DS

/-- `find` never runs out of fuel, returns the root, the result is a root, path compression
changes no element's root and no data. -/
theorem C19_find (s : DS D) (v : Nat) (h : Inv s) :
    ∃ s' r, s.find v = .ok (s', r) ∧ Inv s' ∧ r = rootOf s v ∧
      (∀ w, rootOf s' w = rootOf s w) ∧ s'.data = s.data ∧ s'.reps.get r = some r :=
  let ⟨s', r, h1, h2, h3, h4, h5, h6, _⟩ := find_spec s v h
  ⟨s', r, h1, h2, h3, h4, h5, h6⟩

/-- `union` joins exactly the two classes and combines their data exactly once; a union of
already-joined elements changes nothing (no duplication), nothing is lost. -/
theorem C19_union (M : Monoid D) (s : DS D) (a b : Nat) (h : Inv s) :
    ∃ s', s.union M a b = .ok s' ∧ Inv s' ∧
      (∀ w, s'.mem w = (s.mem w || decide (w = a) || decide (w = b))) ∧
      (rootOf s a = rootOf s b →
        (∀ w, rootOf s' w = rootOf s w) ∧ s'.data = s.data) ∧
      (rootOf s a ≠ rootOf s b →
        (∀ w, rootOf s' w = if rootOf s w = rootOf s b then rootOf s a else rootOf s w) ∧
        ∀ k, s'.data.get k =
          if k = rootOf s a then
            some (M.combine (dataAt M s (rootOf s a)) (dataAt M s (rootOf s b)))
          else if k = rootOf s b then none else s.data.get k) :=
  union_spec M s a b h

theorem C19_add_data (M : Monoid D) (s : DS D) (v : Nat) (d : D) (h : Inv s) :
    ∃ s', s.addData M v d = .ok s' ∧ Inv s' ∧ (∀ w, rootOf s' w = rootOf s w) ∧
      (∀ k, s'.data.get k =
        if k = rootOf s v then some (M.combine (dataAt M s (rootOf s v)) d) else s.data.get k) ∧
      (∀ w, s'.mem w = (s.mem w || decide (w = v))) :=
  addData_spec M s v d h

theorem C19_get_data (s : DS D) (v : Nat) (h : Inv s) :
    ∃ s', s.getData v = .ok (s', s.data.get (rootOf s v)) ∧ Inv s' ∧
      (∀ w, rootOf s' w = rootOf s w) ∧ s'.data = s.data ∧
      (∀ w, s'.mem w = (s.mem w || decide (w = v))) :=
  getData_spec s v h

/-- Every history from the empty forest: no fault (no fuel exhaustion, no size underflow). -/
theorem C19_history_no_fault (M : Monoid D) (ops : List (Op D)) :
    Inv (run M DS.empty ops).1 ∧ ∀ o ∈ (run M DS.empty ops).2, ∀ f, o ≠ .fault f :=
  run_inv M ops _ inv_empty

/-- Every history from the empty forest: the forest represents the naive partition's final
state and every observation (`find`, `get_data`, `sets`, `values`) is one the naive
partition allows. -/
theorem C19_history (M : Monoid D) (ops : List (Op D)) :
    Abs (run M DS.empty ops).1 (Naive.run M Naive.empty ops).1 ∧
    ObsMatch (run M DS.empty ops).2 (Naive.run M Naive.empty ops).2 :=
  run_refines M ops _ _ abs_empty

/-- Same partition: two elements share a root iff the naive partition puts them together. -/
theorem C19_same_partition (M : Monoid D) (ops : List (Op D)) (a b : Nat) :
    rootOf (run M DS.empty ops).1 a = rootOf (run M DS.empty ops).1 b ↔
      (Naive.run M Naive.empty ops).1.sameClass a b := by
  obtain ⟨⟨_, _, h, _⟩, _⟩ := C19_history M ops
  unfold Naive.sameClass
  rw [h, h]

end Forest

/-! ### Non-vacuity -/
example : ((VMap.empty : VMap Nat).insert 3 7 |>.insert 3 8).len = 1 := by decide
example : WF ((VMap.empty : VMap Nat).insert 3 7 |>.insert 3 8) := by unfold WF; decide

end SLE.C19
