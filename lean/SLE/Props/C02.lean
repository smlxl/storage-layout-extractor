import SLE.Lemmas.Layout
import SLE.Lemmas.Unify
import SLE.Lemmas.MergePacked
import SLE.Lemmas.OrderFacts
/-!
# C02 — determinism under hash-iteration order

Every place where the implementation iterates a hash map or hash set is, in the models, a point
where a list is taken *as given*; the theorems below quantify over `List.Perm`.

Full statement (kept visible): for every permutation chosen at every such point the analysis
returns an equal result.  It is **false** of the pinned code: the per-class fold of typing
evidence is order dependent inside the region `MergeLaws.Bad` (finding D11, C16) and where a
packed encoding swallows a full-width word (finding D18); `C02_foldMerge_perm` is the provable
part, `C02_foldMerge_order_dependent_on_pinned` the witness.
-/
namespace SLE.C02
open SLE SLE.Layout SLE.MergeLaws

/-- The per-class fold of `unification.rs:86-104` gives the same outcome (up to conflict wording
and choice of representative) for every order of the class's evidence, provided the evidence is
packed-free and contains no triple from the non-associative region. -/
theorem C02_foldMerge_perm {l₁ l₂ : List TE} (hpf : ∀ e ∈ l₁, PF e = true) (hnb : NoBadTriple l₁)
    (hp : l₁.Perm l₂) :
    (foldMerge l₁ = none ∧ foldMerge l₂ = none) ∨
    ∃ o₁ o₂, foldMerge l₁ = some o₁ ∧ foldMerge l₂ = some o₂ ∧ OutEq o₁ o₂ := by
  by_cases hne : l₁ = []
  · subst hne
    rw [← hp.nil_eq]
    exact .inl ⟨rfl, rfl⟩
  · exact .inr (foldMerge_perm hpf hnb hp hne)

/-- The full statement fails on the pinned code: the same three pieces of evidence fold to
`bytes` in one order and to a conflict in another. -/
theorem C02_foldMerge_order_dependent_on_pinned :
    ∃ o₁ o₂,
      foldMerge [.bytes, .word (some 8) .bool, .word (some 160) .address] = some o₁ ∧
      foldMerge [.word (some 8) .bool, .word (some 160) .address, .bytes] = some o₂ ∧
      ([TE.bytes, .word (some 8) .bool, .word (some 160) .address]).Perm
        [.word (some 8) .bool, .word (some 160) .address, .bytes] ∧
      (∀ e ∈ [TE.bytes, .word (some 8) .bool, .word (some 160) .address], PF e = true) ∧
      ¬ OutEq o₁ o₂ :=
  ⟨_, _, foldMerge_witness₁, foldMerge_witness₂,
    List.perm_append_comm (l₁ := [TE.bytes]) (l₂ := [.word (some 8) .bool, .word (some 160) .address]),
    by decide, foldMerge_order_dependent_witness _ _ foldMerge_witness₁ foldMerge_witness₂⟩

/-- `StorageLayout::add` (push + stable sort) yields a layout that does not depend on the order
in which entries with distinct `(index, offset)` keys were produced … -/
theorem C02_layout_perm {α : Type} {es₁ es₂ : List (Entry α)} (hd : DistinctKeys es₁)
    (hp : es₁.Perm es₂) : buildLayout es₁ = buildLayout es₂ :=
  (buildLayout_unique_sorted hd ((buildLayout_perm es₂).trans hp.symm) (buildLayout_sorted es₂)).symm

/-- … and in general exactly the relative order of entries with *equal* keys remains. -/
theorem C02_layout_order_dependence_exact {α : Type} (es₁ es₂ : List (Entry α)) :
    buildLayout es₁ = buildLayout es₂ ↔ ∀ k, es₁.filter (hasKey k) = es₂.filter (hasKey k) :=
  buildLayout_eq_iff es₁ es₂

/-- `itertools::unique` over a permuted list keeps the same set of values. -/
theorem C02_unique_perm {α : Type} [BEq α] [LawfulBEq α] {l₁ l₂ : List α} (h : l₁.Perm l₂) :
    (unique l₁).Perm (unique l₂) := by
  rw [List.perm_ext_iff_of_nodup (unique_nodup l₁) (unique_nodup l₂)]
  exact fun x => unique_perm_set h x

/-- Unification's guarantees (no panic, one expression per class, equalities honoured) hold for
every choice of iteration orders. -/
theorem C02_unify_any_order (o : Unify.Orders) (ho : Unify.OrdersOk o) (fuel nvars : Nat)
    (infs : Nat → List TE) (f : Unify.Forest) (n r : Nat)
    (h : Unify.unify o fuel nvars infs = .ok (f, n, r)) :
    (∀ k d, f.data.get k = some d → d.length ≤ 1) ∧
    ∀ v id, v < nvars → .equal id ∈ infs v → Containers.DS.rootOf f v = Containers.DS.rootOf f id :=
  ⟨fun k d hk => ((Unify.unify_post ho h).2 k d hk).1, Unify.unify_equalities ho h⟩

/-! ### Non-vacuity -/
example : NoBadTriple [.mapping 0 1, .mapping 2 3, .any] := by decide
example : ¬ NoBadTriple [.bytes, .word (some 8) .bool, .word (some 160) .address] := witness_has_bad_triple


/-- With a packed encoding in the class the fold IS order dependent (finding D18): the same three
pieces of evidence fold to the encoding (both words pushed down to its span) or to a conflict. -/
theorem C02_fold_order_dependent_with_packed_on_pinned :
    Unify.foldClass 0 [.packed [⟨1, 0, 8⟩] false, .word (some 8) .bool, .word (some 8) .address] 5 =
      .ok (.packed [⟨1, 0, 8⟩] false, 5, [],
           [(1, .word (some 8) .bool), (1, .word (some 8) .address)], []) ∧
    Unify.foldClass 0 [.word (some 8) .bool, .word (some 8) .address, .packed [⟨1, 0, 8⟩] false] 5 =
      .ok (.conflict, 5, [], [], []) := by
  constructor <;> rfl


/-- The inference sets do not depend on the order in which judgements were added (the sixteen
rules sit in a hash set; each only adds judgements) … -/
theorem C02_inference_sets_order_free {js js' : List (Nat × TE)} (h : js.Perm js') (v : Nat) :
    ∀ e, e ∈ ((TC.infSets js).lookup v).getD [] ↔ e ∈ ((TC.infSets js').lookup v).getD [] :=
  OrderFacts.infSets_perm_mem h v

/-- … and unification starts from the same partition with the same evidence per class, whatever
the order of the judgements and whatever the iteration orders of the two runs. -/
theorem C02_initial_forest_order_free {o o' : Unify.Orders} (ho : Unify.OrdersOk o) (ho' : Unify.OrdersOk o')
    (vars : List Nat) {js js' : List (Nat × TE)} (hp : js.Perm js') :
    ∃ f f', Unify.initForest o vars (fun v => ((TC.infSets js).lookup v).getD []) = .ok f ∧
      Unify.initForest o' vars (fun v => ((TC.infSets js').lookup v).getD []) = .ok f' ∧
      (∀ a b, OrderFacts.sameClass f a b ↔ OrderFacts.sameClass f' a b) ∧
      (∀ a e, e ∈ OrderFacts.evidence f a ↔ e ∈ OrderFacts.evidence f' a) :=
  OrderFacts.initForest_judgement_order ho ho' vars hp

end SLE.C02
