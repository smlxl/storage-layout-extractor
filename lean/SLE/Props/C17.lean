import SLE.Lemmas.VMModes
/-!
# C17 — strict mode surfaces every error; permissive mode tolerates bad jumps

Property theorems over M4.  `strict cfg` / `perm cfg` differ only in the flag; `dropJump` erases
the four jump-target kinds from the error buffer.
-/
namespace SLE.C17
open SLE SLE.VM SLE.Disasm

/-- The flag influences nothing but which errors are recorded: the permissive run *is* the
strict run with the jump-target errors dropped (same threads, states, forks, order). -/
theorem C17_modes_differ_only_in_errors (cfg : Cfg) (code : List Instr) (fuel : Nat) :
    run (perm cfg) code fuel (initVM (perm cfg) code) =
      dropJump (run (strict cfg) code fuel (initVM (strict cfg) code)) :=
  run_perm_eq cfg code fuel

/-- In strict mode every `Err` an opcode returns is recorded at its byte offset, and nothing
recorded is ever removed. -/
theorem C17_strict_surfaces {cfg : Cfg} {code : List Instr} {s : VMS} {t : Thread}
    {rest : List Thread} {ins : Instr} {e : XErr} (hperm : cfg.permissive = false)
    (hq : s.queue = t :: rest) (hi : code[t.ip]? = some ins)
    (he : (opOut cfg code s t ins).err = some e) (hp : ∀ site, e ≠ .panic site) :
    (t.ip, e) ∈ (step cfg code s).errors ∧ ∀ x ∈ s.errors, x ∈ (step cfg code s).errors := by
  refine ⟨?_, step_errors_grow cfg code s⟩
  rw [step_err hq hi he hp]
  apply advance_errors_grow
  simp [midErr, hperm]

theorem C17_errors_never_removed (cfg : Cfg) (code : List Instr) (fuel : Nat) (s : VMS) :
    ∀ x ∈ s.errors, x ∈ (run cfg code fuel s).errors := fun x =>
  run_induction (P := fun s' => x ∈ s'.errors) (fun s' => step_errors_grow cfg code s' x) fuel s

/-- Every listed error is located at a byte offset inside the code. -/
theorem C17_located (cfg : Cfg) (code : List Instr) (hc : 0 < code.length)
    (hi : 0 < cfg.iterLimit) (fuel : Nat) :
    ∀ loc e, (loc, e) ∈ (run cfg code fuel (initVM cfg code)).errors → loc < code.length :=
  fun loc e => (inv_run fuel (inv_init hc hi)).errLoc (loc, e)

/-- Bad jump targets — by JUMP or JUMPI — never by themselves fail a permissive run … -/
theorem C17_permissive_jumps (cfg : Cfg) (code : List Instr) (fuel : Nat)
    (h : ∀ x ∈ (run (strict cfg) code fuel (initVM (strict cfg) code)).errors, x.2.isJumpKind = true) :
    (run (perm cfg) code fuel (initVM (perm cfg) code)).errors = [] := by
  rw [run_perm_eq]
  exact List.filter_eq_nil_iff.mpr fun x hx => by simp [h x hx]

/-- … while every other execution error still does. -/
theorem C17_permissive_others (cfg : Cfg) (code : List Instr) (fuel : Nat) (x : Nat × XErr) :
    x ∈ (run (perm cfg) code fuel (initVM (perm cfg) code)).errors ↔
      x ∈ (run (strict cfg) code fuel (initVM (strict cfg) code)).errors ∧ x.2.isJumpKind = false := by
  rw [run_perm_eq]
  simp [dropJump, List.mem_filter]

/-- Whenever strict mode succeeds, permissive mode produces the identical machine state. -/
theorem C17_strict_ok_same (cfg : Cfg) (code : List Instr) (fuel : Nat)
    (h : (run (strict cfg) code fuel (initVM (strict cfg) code)).errors = []) :
    run (perm cfg) code fuel (initVM (perm cfg) code) =
      run (strict cfg) code fuel (initVM (strict cfg) code) := by
  rw [run_perm_eq, dropJump_of_errors_nil h]

/-! ### Non-vacuity -/
example : XErr.isJumpKind .nonExistentJumpTarget = true ∧ XErr.isJumpKind .noSuchStackFrame = false := by decide

end SLE.C17
