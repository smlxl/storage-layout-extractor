import SLE.Lemmas.IdiomsE2E
/-!
# C04 end to end — the canonical idioms give the right layout entry, for every slot number

`Props/C04.lean` proves what the lifting passes and the rules do with the idioms, stage by stage.
Here the whole type-checking pipeline (`TC.analyse`: de-duplication, nine passes, registration,
sixteen rules, unification, rendering, layout construction) is run on the value the machine
produces for each idiom, with the slot number `w` universally quantified: the returned layout is
exactly one entry at `w` (two for the packed word) with the stated ABI type.  `callerV` = the CALLER
opcode, `valueV` = CALLVALUE; `h.table w = none`: the slot number is not itself a recognised hash
(the exception the tool makes by design); every step budget from the least one upwards.  The
unification step is a kernel evaluation on the closed judgement list (it does not depend on `w`), at
the identity iteration order; the mapping case is proved for depth 1 and 2 (the lifting lemma
`mapping_write_lifted_eq` covers every depth; unification on a symbolic-length list is not done).
-/
namespace SLE.C04
open SLE SLE.SV SLE.Lift SLE.TC SLE.Idioms SLE.IdiomsE2E

/-- a plain word: `sstore(w, callvalue)` -/
theorem C04_e2e_word (h : HashCtx) (w : Nat) (hw : h.table w = none) (fuel : Nat) :
    (analyse h Unify.idOrders (fuel + 1) [rebuild .storageWrite [] [K w, valueV]]).outcome =
      .layout [⟨w, 0, .uInt none⟩] := E1 h w hw fuel

/-- an address: `sstore(w, caller)` … -/
theorem C04_e2e_address (h : HashCtx) (w : Nat) (hw : h.table w = none) (fuel : Nat) :
    (analyse h Unify.idOrders (fuel + 1) [rebuild .storageWrite [] [K w, callerV]]).outcome =
      .layout [⟨w, 0, .address⟩] := E2_unmasked h w hw fuel

/-- … and `sstore(w, caller & (2^160 - 1))` (`_partial`: the mask constant must not be a recognised
slot hash either — `IdiomsE2E.E2_needs_hm` is the kernel-checked counterexample without it) -/
theorem C04_e2e_address_masked_partial (h : HashCtx) (w : Nat) (hw : h.table w = none)
    (hm : h.table (mask 0 160) = none) (fuel : Nat) :
    (analyse h Unify.idOrders (fuel + 3)
      [rebuild .storageWrite [] [K w, rebuild .and_ [] [callerV, K (mask 0 160)]]]).outcome =
      .layout [⟨w, 0, .address⟩] := E2_partial h w hw hm fuel

/-- a mapping from addresses: `sstore(keccak(caller . w), callvalue)` -/
theorem C04_e2e_mapping (h : HashCtx) (w : Nat) (hw : h.table w = none) (fuel : Nat) :
    (analyse h Unify.idOrders (fuel + 1) [rebuild .storageWrite [] [mapKey [callerV] (K w), valueV]]).outcome =
      .layout [⟨w, 0, .mapping .address (.uInt none)⟩] := E3 h w hw fuel

/-- a mapping from words to addresses -/
theorem C04_e2e_mapping_word_key (h : HashCtx) (w : Nat) (hw : h.table w = none) (fuel : Nat) :
    (analyse h Unify.idOrders (fuel + 1) [rebuild .storageWrite [] [mapKey [valueV] (K w), callerV]]).outcome =
      .layout [⟨w, 0, .mapping (.uInt none) .address⟩] :=
  e2e h w fuel 1 8 1 _ _ (vals3w w) J3w isMapUA _
    (mapping_write_lifted_eq h w hw [valueV] (fun k hk => by rw [List.mem_singleton.mp hk]; exact Inert_valueV)
      callerV Inert_callerV)
    (reg3w w) (oneSlot_of rfl) (by decide +kernel) (fun _ => isMapUA_eq)

/-- a mapping nested twice -/
theorem C04_e2e_mapping_depth2 (h : HashCtx) (w : Nat) (hw : h.table w = none) (fuel : Nat) :
    (analyse h Unify.idOrders (fuel + 1)
      [rebuild .storageWrite [] [mapKey [callerV, callerV] (K w), valueV]]).outcome =
      .layout [⟨w, 0, .mapping .address (.mapping .address (.uInt none))⟩] :=
  e2e h w fuel 1 12 1 _ _ (vals5 w) J5 isMapAAU _
    (mapping_write_lifted_eq h w hw [callerV, callerV]
      (fun k hk => by simp only [List.mem_cons, List.mem_nil_iff, or_false, or_self] at hk; rw [hk]; exact Inert_callerV)
      valueV Inert_valueV)
    (reg5 w) (oneSlot_of rfl) (by decide +kernel) (fun _ => isMapAAU_eq)

/-- a dynamic array of addresses: `sstore(keccak(w) + callvalue, caller)` -/
theorem C04_e2e_dyn_array (h : HashCtx) (w : Nat) (hw : h.table w = none) (fuel : Nat) :
    (analyse h Unify.idOrders (fuel + 1) [rebuild .storageWrite [] [dynKey w valueV, callerV]]).outcome =
      .layout [⟨w, 0, .dynArray .address⟩] := E4 h w hw fuel

/-- two fields packed into one word: an address in bits 0..160 and a 64-bit field above it -/
theorem C04_e2e_packed_partial (h : HashCtx) (w : Nat) (hw : h.table w = none) (hm : h.table (mask 0 160) = none)
    (hm64 : h.table (mask 0 64) = none) (hp : h.table (2 ^ 160) = none) (fuel : Nat) :
    (analyse h Unify.idOrders (fuel + 3)
      [rebuild .storageWrite [] [K w,
        rebuild .or_ [] [rebuild .and_ [] [callerV, K (mask 0 160)],
          rebuild .multiply [] [rebuild .and_ [] [valueV, K (mask 0 64)], K (2 ^ 160)]]]]).outcome =
      .layout [⟨w, 0, .address⟩, ⟨w, 160, .bytes (some 8)⟩] := by
  obtain ⟨av, hpa, ht⟩ := e2e_av h w fuel 3 8 1 _ _ (vals6 w) J6 isPk2 (lift_write_fields h w hw hm hm64 hp) (reg6 w)
    (oneSlot_of rfl) (by decide +kernel)
  have hv : rebuild .or_ [] [rebuild .and_ [] [callerV, K (mask 0 160)],
      rebuild .multiply [] [rebuild .and_ [] [valueV, K (mask 0 64)], K (2 ^ 160)]] = fieldsV := rfl
  rw [hv, ht, isPk2_eq hpa]
  simp [here, Layout.buildLayout, Layout.add, Layout.insertStable, Layout.keyLt]

/-- the write form of a mapping access of any depth is lifted to the indexed slot -/
theorem C04_mapping_write_any_depth (h : HashCtx) (w : Nat) (hw : h.table w = none) (ks : List SV)
    (hks : ∀ k ∈ ks, Inert k) (val : SV) (hval : Inert val) :
    liftAll h (rebuild .storageWrite [] [mapKey ks (K w), val]) =
      .ok (rebuild .storageWrite [] [sSlot (mapIdxS ks (K w)), val]) :=
  mapping_write_lifted_eq h w hw ks hks val hval

end SLE.C04
