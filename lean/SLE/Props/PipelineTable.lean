import SLE.Lemmas.EvalVM
import SLE.Gen.PipelineTable
/-!
# The whole pipeline, decided against the running code by the kernel

`SLE.Gen.pipelineTable` is regenerated on every run from `/repo`'s working tree: the layouts that
`Extractor::analyze` returns for small single-idiom programs (plain word, address, mappings of
depth 1–3, dynamic arrays, packed fields in both write styles, two dispatcher shapes), kept when
they are the same under three iteration orders.  The theorem below makes the kernel evaluate the
model of the whole analysis (`Pipe.analyseProgram`: disassembly, symbolic execution, collection
of values, nine lifting passes, registration, sixteen rules, unification, layout construction)
on every one of these programs and compare.  It is the end-to-end tie of the model that the
program-level theorems (`C01_program_total`, `C05_program_*`, `C12_program_sorted`) talk about.
-/
namespace SLE.PipelineTable
open SLE SLE.VM

/-- prefix code of an ABI type (the harness has the same function on the code's `AbiType`) -/
def abiCodeF : Nat → JsonModel.AbiType → List Nat
  | 0, _ => [99]
  | f + 1, t =>
    match t with
    | .any => [0]
    | .number s => [1, s.getD 0]
    | .uInt s => [2, s.getD 0]
    | .int s => [3, s.getD 0]
    | .address => [4]
    | .selector => [5]
    | .function => [6]
    | .bool => [7]
    | .array n t => 8 :: n :: abiCodeF f t
    | .bytes l => [9, l.getD 0]
    | .bits l => [10, l.getD 0]
    | .dynArray t => 11 :: abiCodeF f t
    | .dynBytes => [12]
    | .mapping k v => 13 :: (abiCodeF f k ++ abiCodeF f v)
    | .struct es => 14 :: es.length :: es.flatMap (fun e => match e with | .mk o t => o :: abiCodeF f t)
    | .infiniteType => [15]
    | .conflictedType _ _ => [16]

def abiCode (t : JsonModel.AbiType) : List Nat := abiCodeF 64 t

/-- no constant of these programs is a known slot hash -/
def probeCtx : Lift.HashCtx := ⟨fun _ => none, fun _ => 0⟩
def cfg0 : Cfg := ⟨30000000, 10, 50, 250, 394, false⟩

def row (r : List Nat × List (Nat × Nat × List Nat)) : Bool :=
  match Pipe.analyseProgram probeCtx Unify.idOrders cfg0 r.1 100000 400 with
  | .analysed a => (match a.outcome with
    | .layout l => l.map (fun (e : Layout.Entry JsonModel.AbiType) => (e.index, e.offset, abiCode e.typ)) == r.2
    | _ => false)
  | _ => false

theorem pipeline_table : (SLE.Gen.pipelineTable.all row) = true := by
  -- the machine is run by `runC`, which does not walk `code` and `visited` up to `ip` at every instruction
  unfold row Pipe.analyseProgram
  simp only [run_eq_runC]
  decide +kernel

end SLE.PipelineTable
