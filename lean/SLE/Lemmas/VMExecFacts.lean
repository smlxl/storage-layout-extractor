import SLE.Model.VM
/-
Facts about `execOp` (the data effect of one instruction) that the control theorems need: which
instructions set a control field, with what, and which kill their thread.
-/
namespace SLE.VM
open SLE SLE.SV SLE.Disasm

/-- The output carries no control request. -/
def NoCtl (o : OpOut) : Prop := o.jumpTo = none ∧ o.forkTo = none ∧ o.softErr = none

/-- split every `if`/`match`, looking through `have` binders -/
macro "split_all" : tactic => `(tactic| repeat' (first | split | (dsimp only; split)))
macro "split_all" "at" h:ident : tactic =>
  `(tactic| repeat' (first | split at $h:ident | (dsimp only at $h:ident; split at $h:ident)))

theorem noCtl_pushOut (d : TData) (ctr : Nat) (v : SV) : NoCtl (pushOut d ctr v) := by
  unfold pushOut; split
  · exact ⟨rfl, rfl, rfl⟩
  · exact ⟨rfl, rfl, rfl⟩

/-- close `NoCtl` of an arm of `execOp` that sets no control field: split it down to its leaves -/
macro "noctl_arm" : tactic =>
  `(tactic| (split_all; all_goals first | exact ⟨rfl, rfl, rfl⟩ | exact noCtl_pushOut ..))

theorem noCtl_copyOp (c : Ctx) (d : TData) (ctr : Nat) (k : Kind) (wa : Bool) (bound : Nat) :
    NoCtl (copyOp c d ctr k wa bound) := by
  unfold copyOp
  noctl_arm

theorem noCtl_callOp (c : Ctx) (d : TData) (ctr : Nat) (wv : Bool) :
    NoCtl (callOp c d ctr wv) := by
  unfold callOp
  noctl_arm

theorem noCtl_ite {p : Prop} [Decidable p] {a b : OpOut} (ha : p → NoCtl a) (hb : ¬p → NoCtl b) :
    NoCtl (if p then a else b) := by
  split
  · exact ha ‹_›
  · exact hb ‹_›

/-- Only JUMP and JUMPI set a control field: one line per arm of `execOp`, in its order. -/
theorem execOp_noCtl (c : Ctx) (code : List Instr) (ins : Instr) (d : TData) (ctr : Nat)
    (h56 : ins ≠ .op 0x56) (h57 : ins ≠ .op 0x57) : NoCtl (execOp c code ins d ctr) := by
  unfold execOp
  split
  · exact ⟨rfl, rfl, rfl⟩
  · exact ⟨rfl, rfl, rfl⟩
  · exact noCtl_pushOut ..
  · refine noCtl_ite (fun _ => ⟨rfl, rfl, rfl⟩) (fun _ => ?_)      -- STOP
    refine noCtl_ite (fun _ => ⟨rfl, rfl, rfl⟩) (fun _ => ?_)      -- JUMPDEST
    refine noCtl_ite (fun _ => ⟨rfl, rfl, rfl⟩) (fun _ => ?_)      -- INVALID
    refine noCtl_ite (fun _ => by noctl_arm) (fun _ => ?_)         -- DUPn
    refine noCtl_ite (fun _ => by noctl_arm) (fun _ => ?_)         -- SWAPn
    refine noCtl_ite (fun _ => by noctl_arm) (fun _ => ?_)         -- POP
    refine noCtl_ite (fun _ => noCtl_pushOut ..) (fun _ => ?_)     -- PC
    refine noCtl_ite (fun _ => noCtl_pushOut ..) (fun _ => ?_)     -- CODESIZE
    refine noCtl_ite (fun _ => by noctl_arm) (fun _ => ?_)         -- MLOAD
    refine noCtl_ite (fun _ => by noctl_arm) (fun _ => ?_)         -- MSTORE / MSTORE8
    refine noCtl_ite (fun _ => by noctl_arm) (fun _ => ?_)         -- SLOAD
    refine noCtl_ite (fun _ => by noctl_arm) (fun _ => ?_)         -- SSTORE
    refine noCtl_ite (fun _ => by noctl_arm) (fun _ => ?_)         -- SHA3
    refine noCtl_ite (fun _ => noCtl_copyOp ..) (fun _ => ?_)      -- CALLDATACOPY
    refine noCtl_ite (fun _ => noCtl_copyOp ..) (fun _ => ?_)      -- CODECOPY
    refine noCtl_ite (fun _ => noCtl_copyOp ..) (fun _ => ?_)      -- EXTCODECOPY
    refine noCtl_ite (fun _ => noCtl_copyOp ..) (fun _ => ?_)      -- RETURNDATACOPY
    refine noCtl_ite (fun _ => by noctl_arm) (fun _ => ?_)         -- LOGn
    refine noCtl_ite (fun _ => by noctl_arm) (fun _ => ?_)         -- CREATE
    refine noCtl_ite (fun _ => by noctl_arm) (fun _ => ?_)         -- CREATE2
    refine noCtl_ite (fun _ => noCtl_callOp ..) (fun _ => ?_)      -- CALL / CALLCODE
    refine noCtl_ite (fun _ => noCtl_callOp ..) (fun _ => ?_)      -- DELEGATECALL / STATICCALL
    refine noCtl_ite (fun _ => by noctl_arm) (fun _ => ?_)         -- RETURN / REVERT
    refine noCtl_ite (fun _ => by noctl_arm) (fun _ => ?_)         -- SELFDESTRUCT
    refine noCtl_ite (fun hb => absurd (congrArg Instr.op (eq_of_beq hb)) h56) (fun _ => ?_)  -- JUMP
    refine noCtl_ite (fun hb => absurd (congrArg Instr.op (eq_of_beq hb)) h57) (fun _ => ?_)  -- JUMPI
    noctl_arm

theorem execOp_jump_eq (c : Ctx) (code : List Instr) (d : TData) (ctr : Nat) :
    execOp c code (.op 0x56) d ctr =
      (match pop d with
       | .error e => fail d ctr e
       | .ok (counter, d1) =>
         (match validateJump code counter with
          | .ok t => { d := d1, ctr := ctr, jumpTo := some t }
          | .error e =>
            let d2 := record d1 counter
            if e == .noConcreteJumpDestination then { d := d2, ctr := ctr, kill := true }
            else fail d2 ctr e)) := rfl

theorem execOp_jumpi_eq (c : Ctx) (code : List Instr) (d : TData) (ctr : Nat) :
    execOp c code (.op 0x57) d ctr =
      (match pop d with
       | .error e => fail d ctr e
       | .ok (counter, d1) =>
         (match pop d1 with
          | .error e => fail d1 ctr e
          | .ok (cond, d2) =>
            let d3 := record d2 cond
            (match validateJump code counter with
             | .ok t => { d := d3, ctr := ctr, forkTo := some t }
             | .error e => { d := record d3 counter, ctr := ctr, softErr := some e }))) := rfl

/-! ### `validateJump` -/

/-- A validated target is the WHOLE popped 256-bit constant, it fits 32 bits, and the stream entry
there is JUMPDEST. -/
theorem validateJump_ok {code : List Instr} {counter : SV} {t : Nat}
    (h : validateJump code counter = .ok t) :
    ∃ w, isKnown (fold counter) = some w ∧ w.toNat = t ∧ t < 2 ^ 32 ∧
      code[t]? = some (.op 0x5b) := by
  unfold validateJump at h
  split at h
  · cases h
  · rename_i w hw
    split at h
    · cases h
    · rename_i hlt
      split at h
      · cases h
      · rename_i ins hins
        split at h
        · rename_i hjd
          cases h
          refine ⟨w, hw, rfl, by omega, ?_⟩
          rw [hins, eq_of_beq hjd]
        · cases h

theorem validateJump_lt {code : List Instr} {counter : SV} {t : Nat}
    (h : validateJump code counter = .ok t) : t < code.length := by
  obtain ⟨_, _, _, _, hc⟩ := validateJump_ok h
  exact (List.getElem?_eq_some_iff.mp hc).1

/-- `validateJump` only fails with one of the jump kinds. -/
theorem validateJump_error {code : List Instr} {counter : SV} {e : XErr}
    (h : validateJump code counter = .error e) : e.isJumpKind = true := by
  unfold validateJump at h
  split_all at h
  all_goals first | (cases h; rfl) | cases h

/-! ### The control fields of `execOp` -/

/-- `jumpTo` is set only by JUMP, with the validated popped counter. -/
theorem execOp_jumpTo {c : Ctx} {code : List Instr} {ins : Instr} {d : TData} {ctr t : Nat}
    (h : (execOp c code ins d ctr).jumpTo = some t) :
    ins = .op 0x56 ∧ ∃ counter d1, pop d = .ok (counter, d1) ∧
      validateJump code counter = .ok t := by
  by_cases h56 : ins = .op 0x56
  · subst h56
    refine ⟨rfl, ?_⟩
    rw [execOp_jump_eq] at h
    split at h
    · cases h
    · rename_i counter d1 hp
      split at h
      · rename_i t' hv
        cases h
        exact ⟨counter, d1, hp, hv⟩
      · dsimp only at h
        split at h <;> cases h
  · by_cases h57 : ins = .op 0x57
    · subst h57
      rw [execOp_jumpi_eq] at h
      split_all at h
      all_goals cases h
    · rw [(execOp_noCtl c code ins d ctr h56 h57).1] at h
      cases h

/-- `forkTo` is set only by JUMPI, with the validated popped counter. -/
theorem execOp_forkTo {c : Ctx} {code : List Instr} {ins : Instr} {d : TData} {ctr t : Nat}
    (h : (execOp c code ins d ctr).forkTo = some t) :
    ins = .op 0x57 ∧ ∃ counter d1, pop d = .ok (counter, d1) ∧
      validateJump code counter = .ok t := by
  by_cases h57 : ins = .op 0x57
  · subst h57
    refine ⟨rfl, ?_⟩
    rw [execOp_jumpi_eq] at h
    split at h
    · cases h
    · rename_i counter d1 hp
      split at h
      · cases h
      · dsimp only at h
        split at h
        · rename_i t' hv
          cases h
          exact ⟨counter, d1, hp, hv⟩
        · cases h
  · by_cases h56 : ins = .op 0x56
    · subst h56
      rw [execOp_jump_eq] at h
      split_all at h
      all_goals cases h
    · rw [(execOp_noCtl c code ins d ctr h56 h57).2.1] at h
      cases h

/-- The soft error (JUMPI with a bad target) is always a jump kind. -/
theorem execOp_softErr {c : Ctx} {code : List Instr} {ins : Instr} {d : TData} {ctr : Nat}
    {e : XErr} (h : (execOp c code ins d ctr).softErr = some e) : e.isJumpKind = true := by
  by_cases h57 : ins = .op 0x57
  · subst h57
    rw [execOp_jumpi_eq] at h
    split at h
    · cases h
    · split at h
      · cases h
      · dsimp only at h
        split at h
        · cases h
        · rename_i e' hv
          cases h
          exact validateJump_error hv
  · by_cases h56 : ins = .op 0x56
    · subst h56
      rw [execOp_jump_eq] at h
      split_all at h
      all_goals cases h
    · rw [(execOp_noCtl c code ins d ctr h56 h57).2.2] at h
      cases h

theorem execOp_jumpTo_jumpdest {c : Ctx} {code : List Instr} {ins : Instr} {d : TData}
    {ctr t : Nat} (h : (execOp c code ins d ctr).jumpTo = some t) :
    code[t]? = some (.op 0x5b) := by
  obtain ⟨_, _, _, _, hv⟩ := execOp_jumpTo h
  obtain ⟨_, _, _, _, hc⟩ := validateJump_ok hv
  exact hc

theorem execOp_forkTo_jumpdest {c : Ctx} {code : List Instr} {ins : Instr} {d : TData}
    {ctr t : Nat} (h : (execOp c code ins d ctr).forkTo = some t) :
    code[t]? = some (.op 0x5b) := by
  obtain ⟨_, _, _, _, hv⟩ := execOp_forkTo h
  obtain ⟨_, _, _, _, hc⟩ := validateJump_ok hv
  exact hc

/-- An instruction that kills its thread requests no control transfer. -/
theorem execOp_kill_noCtl {c : Ctx} {code : List Instr} {ins : Instr} {d : TData} {ctr : Nat}
    (h : (execOp c code ins d ctr).kill = true) :
    (execOp c code ins d ctr).jumpTo = none ∧ (execOp c code ins d ctr).forkTo = none := by
  by_cases h56 : ins = .op 0x56
  · subst h56
    rw [execOp_jump_eq] at h ⊢
    split_all
    all_goals first | exact ⟨rfl, rfl⟩ | (exfalso; simp_all; done)
  · by_cases h57 : ins = .op 0x57
    · subst h57
      rw [execOp_jumpi_eq] at h ⊢
      split_all
      all_goals first | exact ⟨rfl, rfl⟩ | (exfalso; simp_all; done)
    · have := execOp_noCtl c code ins d ctr h56 h57
      exact ⟨this.1, this.2.1⟩

/-! ### The halting instructions that can fail -/

theorem execOp_ret_eq (c : Ctx) (code : List Instr) (d : TData) (ctr : Nat) (b : Nat)
    (hb : b = 0xf3 ∨ b = 0xfd) :
    execOp c code (.op b) d ctr =
      (match popN 2 d [] with
       | .error (e, d') => fail d' ctr e
       | .ok ([off, size], d1) =>
         (match memLoadSlice c d1 off size with
          | .error e => fail d1 ctr e
          | .ok (data, d2) =>
            let (v, ctr1) := build c ctr (if b == 0xf3 then .return_ else .revert) [] [data]
            { d := record d2 v, ctr := ctr1, kill := true })
       | .ok (_, d1) => fail d1 ctr .noSuchStackFrame) := by
  rcases hb with rfl | rfl <;> rfl

theorem execOp_selfdestruct_eq (c : Ctx) (code : List Instr) (d : TData) (ctr : Nat) :
    execOp c code (.op 0xff) d ctr =
      (match pop d with
       | .error e => fail d ctr e
       | .ok (target, d1) =>
         let (v, ctr1) := build c ctr .selfDestruct [] [target]
         { d := record d1 v, ctr := ctr1, kill := true }) := rfl

/-- RETURN / REVERT / SELFDESTRUCT kill the thread whenever they do not fail. -/
theorem kill_ops_halt (c : Ctx) (code : List Instr) (d : TData) (ctr : Nat) (b : Nat)
    (hb : b = 0xf3 ∨ b = 0xfd ∨ b = 0xff)
    (he : (execOp c code (.op b) d ctr).err = none) :
    (execOp c code (.op b) d ctr).kill = true := by
  rcases hb with hb | hb | hb
  · rw [execOp_ret_eq c code d ctr b (.inl hb)] at he ⊢
    split_all
    all_goals first | rfl | (exfalso; simp_all [fail]; done)
  · rw [execOp_ret_eq c code d ctr b (.inr hb)] at he ⊢
    split_all
    all_goals first | rfl | (exfalso; simp_all [fail]; done)
  · subst hb
    rw [execOp_selfdestruct_eq] at he ⊢
    split_all
    all_goals first | rfl | (exfalso; simp_all [fail]; done)

/-! ### `execOp` does not read `cfg.permissive` -/

@[reducible] def Ctx.setPerm (c : Ctx) (p : Bool) : Ctx := { c with cfg := { c.cfg with permissive := p } }

theorem build_perm (c : Ctx) (p : Bool) : build (c.setPerm p) = build c := rfl
theorem buildKnown_perm (c : Ctx) (p : Bool) : buildKnown (c.setPerm p) = buildKnown c := rfl
theorem buildValue_perm (c : Ctx) (p : Bool) : buildValue (c.setPerm p) = buildValue c := rfl
theorem memLoadSlice_perm (c : Ctx) (p : Bool) : memLoadSlice (c.setPerm p) = memLoadSlice c := rfl
theorem copyLoop_perm (c : Ctx) (p : Bool) : copyLoop (c.setPerm p) = copyLoop c := rfl
theorem copyOp_perm (c : Ctx) (p : Bool) : copyOp (c.setPerm p) = copyOp c := rfl
theorem storeReturnData_perm (c : Ctx) (p : Bool) : storeReturnData (c.setPerm p) = storeReturnData c := rfl
theorem callOp_perm (c : Ctx) (p : Bool) : callOp (c.setPerm p) = callOp c := rfl

mutual
theorem instantiate_perm (c : Ctx) (p : Bool) (args : List SV) :
    ∀ (t : SV) (ctr : Nat), instantiate (c.setPerm p) args t ctr = instantiate c args t ctr
  | .node k attrs kids s, ctr => by
    simp only [instantiate, instantiate_go_perm c p args kids, build_perm, buildValue_perm]
theorem instantiate_go_perm (c : Ctx) (p : Bool) (args : List SV) :
    ∀ (ts : List SV) (n : Nat),
      instantiate.go (c.setPerm p) args ts n = instantiate.go c args ts n
  | [], n => by simp only [instantiate.go]
  | x :: xs, n => by
    simp only [instantiate.go, instantiate_perm c p args x, instantiate_go_perm c p args xs]
end

theorem execOp_perm (c : Ctx) (code : List Instr) (ins : Instr) (d : TData) (ctr : Nat) (p : Bool) :
    execOp (c.setPerm p) code ins d ctr = execOp c code ins d ctr := by
  unfold execOp
  simp only [instantiate_perm, callOp_perm, copyOp_perm, memLoadSlice_perm, buildKnown_perm, build_perm,
    buildValue_perm, Ctx.setPerm]

theorem execOp_cfg_perm (cfg : Cfg) (p : Bool) (ip len : Nat) (code : List Instr) (ins : Instr)
    (d : TData) (ctr : Nat) :
    execOp { cfg := { cfg with permissive := p }, ip := ip, codeLen := len } code ins d ctr =
      execOp { cfg := cfg, ip := ip, codeLen := len } code ins d ctr :=
  execOp_perm { cfg := cfg, ip := ip, codeLen := len } code ins d ctr p

end SLE.VM
