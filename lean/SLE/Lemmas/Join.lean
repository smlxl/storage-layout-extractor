import SLE.Lemmas.Layout
/-!
C15 — the resolved type of a class is the join of its evidence.

`useLe`/`widthLe`/`wordLe` are the specificity orders on usages, widths and words;
`WordUse.merge`, `wjoin` and the word × word arm of `merge` are the least upper bounds for them.
Compatible evidence joins (in every order, since the statements quantify over every list), plain
contradictions conflict (in every order, on evidence without a bad triple — in particular on
absorber-free evidence), and the absorber hypothesis is needed for the pinned code.
-/
namespace SLE.Join
open SLE SLE.MergeLaws SLE.Layout
set_option linter.unusedSimpArgs false

/-! ## 1. The specificity order -/

/-- `a ⊑ b` on usages: joining `a` into `b` changes nothing. -/
def useLe (a b : WordUse) : Bool := a.merge b == some b

/-- `a ⊑ b` on widths: unknown is below everything, a known width only below itself. -/
def widthLe (a b : Option Nat) : Bool := a == none || a == b

/-- `a ⊑ b` on type expressions: words by width and usage, `any` below everything, everything else
only below itself. -/
def wordLe : TE → TE → Bool
  | .word w1 u1, .word w2 u2 => (w1 == none || w1 == w2) && useLe u1 u2
  | .any, _ => true
  | a, b => a == b

/-! ### partial joins

A partial binary operation that is commutative, idempotent and associative (undefined absorbing)
is the join of the order `a ⊑ b :⇔ a ⊔ b = b`, and is undefined exactly where there is no upper
bound.  `WordUse.merge`, `wjoin` and their product, the word × word arm `wj`, are such. -/

structure PJoin {α : Type} (j : α → α → Option α) : Prop where
  comm : ∀ a b, j a b = j b a
  idem : ∀ a, j a a = some a
  assoc : ∀ a b c, (j a b).bind (j · c) = (j b c).bind (j a ·)

namespace PJoin
variable {α : Type} {j : α → α → Option α}

theorem le_antisymm (h : PJoin j) {a b : α} (h1 : j a b = some b) (h2 : j b a = some a) :
    a = b := by
  rw [h.comm, h1] at h2
  exact (Option.some.inj h2).symm

theorem le_trans (h : PJoin j) {a b c : α} (h1 : j a b = some b) (h2 : j b c = some c) :
    j a c = some c := by
  have e := h.assoc a b c
  rw [h1, h2] at e
  exact e.symm.trans h2

theorem lub (h : PJoin j) {a b c : α} (hab : j a b = some c) :
    j a c = some c ∧ j b c = some c ∧ ∀ d, j a d = some d → j b d = some d → j c d = some d := by
  have up : ∀ {a b c : α}, j a b = some c → j a c = some c := fun {a b c} hab => by
    have e := h.assoc a a b
    rw [h.idem, hab] at e
    exact e.symm.trans hab
  refine ⟨up hab, up ((h.comm b a).trans hab), fun d had hbd => ?_⟩
  have e := h.assoc a b d
  rw [hab, hbd] at e
  exact e.trans had

theorem no_ub (h : PJoin j) {a b : α} (hab : j a b = none) :
    ¬ ∃ d, j a d = some d ∧ j b d = some d := by
  rintro ⟨d, had, hbd⟩
  have e := h.assoc a b d
  rw [hab, hbd] at e
  cases (e.trans had : none = some d)

theorem none_iff (h : PJoin j) (a b : α) :
    j a b = none ↔ ¬ ∃ d, j a d = some d ∧ j b d = some d := by
  refine ⟨h.no_ub, fun hn => ?_⟩
  cases hm : j a b with
  | none => rfl
  | some c => exact absurd ⟨c, (h.lub hm).1, (h.lub hm).2.1⟩ hn

end PJoin

/-! ### usages -/

theorem usePJ : PJoin WordUse.merge :=
  ⟨wordUse_merge_comm, wordUse_merge_idem, wordUse_merge_assoc⟩

theorem useLe_iff (a b : WordUse) : useLe a b = true ↔ a.merge b = some b := beq_iff_eq

theorem useLe_refl (a : WordUse) : useLe a a = true := (useLe_iff a a).2 (usePJ.idem a)

theorem useLe_antisymm (a b : WordUse) : useLe a b = true → useLe b a = true → a = b := by
  simp only [useLe_iff]; exact usePJ.le_antisymm

theorem useLe_trans (a b c : WordUse) : useLe a b = true → useLe b c = true → useLe a c = true := by
  simp only [useLe_iff]; exact usePJ.le_trans

/-- `bytes` is the least usage. -/
theorem useLe_bytes (a : WordUse) : useLe .bytes a = true := by
  cases a <;> rfl

/-- `WordUse.merge` is the least upper bound … -/
theorem useMerge_lub (a b c : WordUse) (h : a.merge b = some c) :
    useLe a c = true ∧ useLe b c = true ∧
      ∀ d, useLe a d = true → useLe b d = true → useLe c d = true := by
  simp only [useLe_iff]; exact usePJ.lub h

/-- … and is undefined exactly when there is no upper bound. -/
theorem useMerge_none (a b : WordUse) (h : a.merge b = none) :
    ¬ ∃ d, useLe a d = true ∧ useLe b d = true := by
  simp only [useLe_iff]; exact usePJ.no_ub h

theorem useMerge_none_iff (a b : WordUse) :
    a.merge b = none ↔ ¬ ∃ d, useLe a d = true ∧ useLe b d = true := by
  simp only [useLe_iff]; exact usePJ.none_iff a b

/-! ### widths -/

theorem widthPJ : PJoin wjoin := ⟨wjoin_comm, wjoin_idem, wjoin_assoc⟩

theorem widthLe_iff (a b : Option Nat) : widthLe a b = true ↔ a = none ∨ a = b := by
  simp [widthLe]

theorem widthLe_iff_join (a b : Option Nat) : widthLe a b = true ↔ wjoin a b = some b := by
  cases a <;> cases b <;> simp [widthLe, wjoin]

theorem widthLe_refl (a : Option Nat) : widthLe a a = true := by
  simp [widthLe]

theorem widthLe_antisymm (a b : Option Nat) : widthLe a b = true → widthLe b a = true → a = b := by
  simp only [widthLe_iff_join]; exact widthPJ.le_antisymm

theorem widthLe_trans (a b c : Option Nat) :
    widthLe a b = true → widthLe b c = true → widthLe a c = true := by
  simp only [widthLe_iff_join]; exact widthPJ.le_trans

theorem wjoin_lub (a b c : Option Nat) (h : wjoin a b = some c) :
    widthLe a c = true ∧ widthLe b c = true ∧
      ∀ d, widthLe a d = true → widthLe b d = true → widthLe c d = true := by
  simp only [widthLe_iff_join]; exact widthPJ.lub h

theorem wjoin_none (a b : Option Nat) (h : wjoin a b = none) :
    ¬ ∃ d, widthLe a d = true ∧ widthLe b d = true := by
  simp only [widthLe_iff_join]; exact widthPJ.no_ub h

theorem wjoin_none_iff (a b : Option Nat) :
    wjoin a b = none ↔ ¬ ∃ d, widthLe a d = true ∧ widthLe b d = true := by
  simp only [widthLe_iff_join]; exact widthPJ.none_iff a b

/-! ### type expressions -/

theorem wordLe_WW (w1 u1 w2 u2) :
    wordLe (.word w1 u1) (.word w2 u2) = (widthLe w1 w2 && useLe u1 u2) := rfl

theorem wordLe_any (c : TE) : wordLe .any c = true := by
  cases c <;> rfl

/-- Only words are above a word. -/
theorem wordLe_word_left {w u} {T : TE} (h : wordLe (.word w u) T = true) :
    ∃ w' u', T = .word w' u' := by
  cases T <;> simp [wordLe] at h
  exact ⟨_, _, rfl⟩

theorem wordLe_word_iff (w u) (T : TE) : wordLe (.word w u) T = true ↔
    ∃ w' u', T = .word w' u' ∧ (w = none ∨ w = w') ∧ useLe u u' = true := by
  constructor
  · intro h
    obtain ⟨w', u', rfl⟩ := wordLe_word_left h
    rw [wordLe_WW, Bool.and_eq_true, widthLe_iff] at h
    exact ⟨w', u', rfl, h.1, h.2⟩
  · rintro ⟨w', u', rfl, h1, h2⟩
    rw [wordLe_WW, Bool.and_eq_true, widthLe_iff]
    exact ⟨h1, h2⟩

/-- Outside words and `any`, `⊑` is equality. -/
theorem wordLe_other (a b : TE) (h1 : a ≠ .any) (h2 : ∀ w u, a ≠ .word w u) :
    wordLe a b = (a == b) := by
  cases a <;> first | (exact absurd rfl h1) | (exact absurd rfl (h2 _ _)) | (cases b <;> rfl)

theorem wordLe_refl (a : TE) : wordLe a a = true := by
  cases a <;> simp [wordLe, useLe_refl]

theorem wordLe_trans (a b c : TE) : wordLe a b = true → wordLe b c = true → wordLe a c = true := by
  intro h1 h2
  by_cases ha : a = .any
  · subst ha; exact wordLe_any c
  · by_cases hw : ∃ w u, a = .word w u
    · obtain ⟨w, u, rfl⟩ := hw
      obtain ⟨w', u', rfl⟩ := wordLe_word_left h1
      obtain ⟨w'', u'', rfl⟩ := wordLe_word_left h2
      rw [wordLe_WW, Bool.and_eq_true] at *
      exact ⟨widthLe_trans _ _ _ h1.1 h2.1, useLe_trans _ _ _ h1.2 h2.2⟩
    · have hw' : ∀ w u, a ≠ .word w u := fun w u e => hw ⟨w, u, e⟩
      rw [wordLe_other a b ha hw'] at h1
      have : a = b := by simpa using h1
      subst this
      exact h2

theorem wordLe_antisymm (a b : TE) : wordLe a b = true → wordLe b a = true → a = b := by
  intro h1 h2
  by_cases ha : a = .any
  · subst ha
    by_cases hb : b = .any
    · exact hb.symm
    · by_cases hw : ∃ w u, b = .word w u
      · obtain ⟨w, u, rfl⟩ := hw
        obtain ⟨_, _, h⟩ := wordLe_word_left h2
        cases h
      · have hw' : ∀ w u, b ≠ .word w u := fun w u e => hw ⟨w, u, e⟩
        rw [wordLe_other b _ hb hw'] at h2
        exact (by simpa using h2 : b = .any).symm
  · by_cases hw : ∃ w u, a = .word w u
    · obtain ⟨w, u, rfl⟩ := hw
      obtain ⟨w', u', rfl⟩ := wordLe_word_left h1
      rw [wordLe_WW, Bool.and_eq_true] at *
      rw [widthLe_antisymm _ _ h1.1 h2.1, useLe_antisymm _ _ h1.2 h2.2]
    · have hw' : ∀ w u, a ≠ .word w u := fun w u e => hw ⟨w, u, e⟩
      rw [wordLe_other a b ha hw'] at h1
      simpa using h1

/-! ### the word × word arm is the join -/

theorem wordPJ : PJoin fun (p q : Option Nat × WordUse) => wj p.1 p.2 q.1 q.2 :=
  ⟨fun _ _ => wj_comm .., fun _ => wj_idem .., fun _ _ _ => wj_assoc ..⟩

theorem wordLe_iff_wj (w1 u1 w2 u2) :
    wordLe (.word w1 u1) (.word w2 u2) = true ↔ wj w1 u1 w2 u2 = some (w2, u2) := by
  rw [wordLe_WW, Bool.and_eq_true, widthLe_iff_join, useLe_iff, wj_some_iff]

theorem wj_lub {w1 u1 w2 u2 w u} (h : wj w1 u1 w2 u2 = some (w, u)) :
    wordLe (.word w1 u1) (.word w u) = true ∧ wordLe (.word w2 u2) (.word w u) = true ∧
      ∀ d, wordLe (.word w1 u1) d = true → wordLe (.word w2 u2) d = true →
        wordLe (.word w u) d = true := by
  have l := wordPJ.lub (a := (w1, u1)) (b := (w2, u2)) (c := (w, u)) h
  refine ⟨(wordLe_iff_wj ..).2 l.1, (wordLe_iff_wj ..).2 l.2.1, fun d h1 h2 => ?_⟩
  obtain ⟨w', u', rfl⟩ := wordLe_word_left h1
  rw [wordLe_iff_wj] at *
  exact l.2.2 (w', u') h1 h2

theorem wj_none {w1 u1 w2 u2} (h : wj w1 u1 w2 u2 = none) :
    ¬ ∃ d, wordLe (.word w1 u1) d = true ∧ wordLe (.word w2 u2) d = true := by
  rintro ⟨d, h1, h2⟩
  obtain ⟨w', u', rfl⟩ := wordLe_word_left h1
  rw [wordLe_iff_wj] at h1 h2
  exact wordPJ.no_ub (a := (w1, u1)) (b := (w2, u2)) h ⟨(w', u'), h1, h2⟩

/-- The merge of two words with a common upper bound is their least upper bound. -/
theorem word_join_lub (w1 u1 w2 u2)
    (hub : ∃ d, wordLe (.word w1 u1) d = true ∧ wordLe (.word w2 u2) d = true) :
    ∃ w u, outcome (.word w1 u1) (.word w2 u2) = (.word w u, []) ∧
      wordLe (.word w1 u1) (.word w u) = true ∧ wordLe (.word w2 u2) (.word w u) = true ∧
      ∀ d, wordLe (.word w1 u1) d = true → wordLe (.word w2 u2) d = true →
        wordLe (.word w u) d = true := by
  cases h : wj w1 u1 w2 u2 with
  | none => exact absurd hub (wj_none h)
  | some p =>
    obtain ⟨w, u⟩ := p
    exact ⟨w, u, by rw [outcome_WW, h]; rfl, wj_lub h⟩

/-- The merge of two words is a conflict exactly when they have no common upper bound. -/
theorem word_join_conflict_iff (w1 u1 w2 u2) :
    (outcome (.word w1 u1) (.word w2 u2)).1 = .conflict ↔
      ¬ ∃ d, wordLe (.word w1 u1) d = true ∧ wordLe (.word w2 u2) d = true := by
  rw [outcome_WW]
  show toTE (wj w1 u1 w2 u2) = .conflict ↔ _
  rw [toTE_eq_conflict]
  exact ⟨wj_none, fun h => (wordPJ.none_iff (w1, u1) (w2, u2)).2 fun ⟨d, h1, h2⟩ =>
    h ⟨.word d.1 d.2, (wordLe_iff_wj ..).2 h1, (wordLe_iff_wj ..).2 h2⟩⟩

/-- … i.e. two different known widths, or usages without a join. -/
theorem word_join_conflict_iff' (w1 u1 w2 u2) :
    (outcome (.word w1 u1) (.word w2 u2)).1 = .conflict ↔
      (∃ a b, w1 = some a ∧ w2 = some b ∧ a ≠ b) ∨ u1.merge u2 = none := by
  rw [outcome_WW]
  show toTE (wj w1 u1 w2 u2) = .conflict ↔ _
  rw [toTE_eq_conflict, wj_none_iff]
  cases w1 <;> cases w2 <;> simp [wjoin]

/-! ## 2. Compatible word evidence joins, in every order -/

/-- a word (any width, any usage) or no information at all -/
def WA (e : TE) : Prop := (∃ w u, e = .word w u) ∨ e = .any

theorem WA.pf {e : TE} (h : WA e) : PF e = true := by
  rcases h with ⟨w, u, rfl⟩ | rfl <;> rfl

theorem WA.ne_conflict {e : TE} (h : WA e) : e ≠ .conflict := by
  rcases h with ⟨w, u, rfl⟩ | rfl <;> simp

/-- One merge of compatible word evidence: the result is the least upper bound. -/
theorem join2 {a x T : TE} (ha : WA a) (hx : WA x) (haT : wordLe a T = true)
    (hxT : wordLe x T = true) :
    ∃ c, outcome a x = (c, []) ∧ WA c ∧ wordLe a c = true ∧ wordLe x c = true ∧
      wordLe c T = true := by
  rcases ha with ⟨w1, u1, rfl⟩ | rfl
  · rcases hx with ⟨w2, u2, rfl⟩ | rfl
    · obtain ⟨w, u, ho, h1, h2, h3⟩ := word_join_lub w1 u1 w2 u2 ⟨T, haT, hxT⟩
      exact ⟨_, ho, .inl ⟨w, u, rfl⟩, h1, h2, h3 T haT hxT⟩
    · exact ⟨_, outcome_any_r _ rfl, .inl ⟨_, _, rfl⟩, wordLe_refl _, wordLe_any _, haT⟩
  · exact ⟨x, outcome_any_l x hx.pf, hx, wordLe_any _, wordLe_refl _, hxT⟩

theorem step_eq (a : TE) (q : List (Nat × Nat)) (x : TE) :
    step (a, q) x = ((outcome a x).1, q ++ (outcome a x).2) := rfl

theorem fold_words (T : TE) : ∀ (l : List TE) (a : TE) (q : List (Nat × Nat)), WA a →
    wordLe a T = true → (∀ e ∈ l, WA e) → (∀ e ∈ l, wordLe e T = true) →
    ∃ j, l.foldl step (a, q) = (j, q) ∧ WA j ∧ wordLe a j = true ∧
      (∀ e ∈ l, wordLe e j = true) ∧ wordLe j T = true := by
  intro l
  induction l with
  | nil =>
    intro a q ha haT _ _
    exact ⟨a, rfl, ha, wordLe_refl a, by simp, haT⟩
  | cons x l ih =>
    intro a q ha haT hl hlT
    have hx := hl x List.mem_cons_self
    have hxT := hlT x List.mem_cons_self
    obtain ⟨c, hc, hcW, hac, hxc, hcT⟩ := join2 ha hx haT hxT
    obtain ⟨j, hj, hjW, hcj, hlj, hjT⟩ := ih c q hcW hcT
      (fun e he => hl e (List.mem_cons_of_mem _ he)) (fun e he => hlT e (List.mem_cons_of_mem _ he))
    refine ⟨j, ?_, hjW, wordLe_trans _ _ _ hac hcj, ?_, hjT⟩
    · rw [List.foldl_cons, step_eq, hc]
      simpa using hj
    · intro e he
      rcases List.mem_cons.1 he with rfl | he
      · exact wordLe_trans _ _ _ hxc hcj
      · exact hlj e he

/-- **Compatible word evidence joins.**  If every piece of evidence is a word (or no information)
and some word `T` is at least as specific as all of it, then — in whatever order the evidence is
folded — the result is not a conflict, is at least as specific as every piece of evidence (so a
known width and the most specific usage are kept) and is below `T`.  As this holds for *every*
such `T`, the result is the least upper bound: nothing more specific than the evidence supports
is invented.  No equalities between variables are emitted. -/
theorem consistent_words_join' (l : List TE) (T : TE) (hne : l ≠ [])
    (hl : ∀ e ∈ l, (∃ w u, e = .word w u) ∨ e = .any)
    (hT : ∀ e ∈ l, wordLe e T = true) :
    ∃ j, foldMerge l = some (j, []) ∧ ((∃ w u, j = .word w u) ∨ j = .any) ∧ j ≠ .conflict ∧
      (∀ e ∈ l, wordLe e j = true) ∧ wordLe j T = true := by
  cases l with
  | nil => exact absurd rfl hne
  | cons x r =>
    obtain ⟨j, hj, hjW, hxj, hrj, hjT⟩ := fold_words T r x [] (hl x List.mem_cons_self)
      (hT x List.mem_cons_self) (fun e he => hl e (List.mem_cons_of_mem _ he))
      (fun e he => hT e (List.mem_cons_of_mem _ he))
    refine ⟨j, by rw [foldMerge_cons, hj], hjW, hjW.ne_conflict, ?_, hjT⟩
    intro e he
    rcases List.mem_cons.1 he with rfl | he
    · exact hxj
    · exact hrj e he

theorem consistent_words_join (l : List TE) (T : TE) : l ≠ [] →
    (∀ e ∈ l, (∃ w u, e = .word w u) ∨ e = .any) → (∃ w u, T = .word w u) →
    (∀ e ∈ l, wordLe e T = true) →
    ∃ j q, foldMerge l = some (j, q) ∧ j ≠ .conflict ∧ (∀ e ∈ l, wordLe e j = true) ∧
      wordLe j T = true := by
  intro hne hl _ hT
  obtain ⟨j, h1, _, h2, h3, h4⟩ := consistent_words_join' l T hne hl hT
  exact ⟨j, [], h1, h2, h3, h4⟩

/-- The result of the fold is determined as *the* least upper bound: any `j'` that is an upper
bound of the evidence and below every word upper bound equals the fold's result. -/
theorem consistent_words_join_unique (l : List TE) (T : TE) (hne : l ≠ [])
    (hl : ∀ e ∈ l, (∃ w u, e = .word w u) ∨ e = .any) (hT : ∀ e ∈ l, wordLe e T = true)
    (j j' : TE) (q : List (Nat × Nat)) (hf : foldMerge l = some (j, q))
    (hub : ∀ e ∈ l, wordLe e j' = true)
    (hleast : ∀ U, (∀ e ∈ l, wordLe e U = true) → wordLe j' U = true) : j' = j := by
  obtain ⟨j0, h1, _, _, h3, _⟩ := consistent_words_join' l T hne hl hT
  obtain ⟨j1, h1', _, _, _, h4'⟩ := consistent_words_join' l j' hne hl hub
  rw [h1] at hf h1'
  cases hf; cases h1'
  exact wordLe_antisymm _ _ (hleast _ h3) h4'

/-- A known width in the evidence is the width of the result, and each usage in the evidence is
below the usage of the result. -/
theorem consistent_words_keep (l : List TE) (T : TE) (hne : l ≠ [])
    (hl : ∀ e ∈ l, (∃ w u, e = .word w u) ∨ e = .any) (hT : ∀ e ∈ l, wordLe e T = true)
    (w : Option Nat) (u : WordUse) (hm : .word w u ∈ l) :
    ∃ w' u', foldMerge l = some (.word w' u', []) ∧ (w = none ∨ w = w') ∧ useLe u u' = true := by
  obtain ⟨j, h1, _, _, h3, _⟩ := consistent_words_join' l T hne hl hT
  obtain ⟨w', u', rfl, h⟩ := (wordLe_word_iff w u j).1 (h3 _ hm)
  exact ⟨w', u', h1, h⟩

/-- No information at all stays no information. -/
theorem all_any_join (l : List TE) (hne : l ≠ []) (hl : ∀ e ∈ l, e = .any) :
    foldMerge l = some (.any, []) := by
  obtain ⟨j, hj, _, _, _, hjT⟩ := consistent_words_join' l .any hne (fun e he => .inr (hl e he))
    (fun e he => by rw [hl e he]; rfl)
  rw [hj, wordLe_antisymm _ _ hjT (wordLe_any j)]

/-! ### Order independence of the word join, stated outright -/

theorem consistent_words_join_perm (l l' : List TE) (T : TE) (hp : l.Perm l') (hne : l ≠ [])
    (hl : ∀ e ∈ l, (∃ w u, e = .word w u) ∨ e = .any) (hT : ∀ e ∈ l, wordLe e T = true) :
    foldMerge l' = foldMerge l := by
  have hne' : l' ≠ [] := fun e => hne (by subst e; exact hp.eq_nil)
  have hl' : ∀ e ∈ l', (∃ w u, e = .word w u) ∨ e = .any := fun e he => hl e (hp.mem_iff.2 he)
  have hT' : ∀ e ∈ l', wordLe e T = true := fun e he => hT e (hp.mem_iff.2 he)
  obtain ⟨j, hj, _, _, _, _⟩ := consistent_words_join' l T hne hl hT
  obtain ⟨j', hj', _, _, hub, _⟩ := consistent_words_join' l' T hne' hl' hT'
  have : j' = j := by
    refine consistent_words_join_unique l T hne hl hT j j' [] hj
      (fun e he => hub e (hp.mem_iff.1 he)) ?_
    intro U hU
    obtain ⟨j'', hj'', _, _, _, h⟩ := consistent_words_join' l' U hne' hl'
      (fun e he => hU e (hp.mem_iff.2 he))
    rw [hj'] at hj''
    cases hj''
    exact h
  rw [hj, hj', this]

/-! ## 3. Compatible constructor evidence keeps its structure and equates components -/

/-- A kind of expressions any two of which merge to the first, equating their components. -/
structure JoinKind (K : TE → Prop) : Prop where
  pf : ∀ r, K r → PF r = true
  join : ∀ r e, K r → K e → ∃ s, outcome r e = (r, s) ∧ ExprEqMod s r e

theorem outcome_of_oN {r e : TE} {s : List (Nat × Nat)} (hr : PF r = true) (he : PF e = true)
    (h : outcomeN r e = (r, s)) (hx : ExprEqMod s r e) :
    ∃ s', outcome r e = (r, s') ∧ ExprEqMod s' r e := by
  rw [outcome_eq _ _ hr he]
  unfold outcomeE
  split
  · rename_i h'
    subst h'
    exact ⟨[], rfl, ExprEqMod.refl _ _⟩
  · exact ⟨s, h, hx⟩

theorem kind_mapping : JoinKind fun e => ∃ k v, e = .mapping k v := by
  refine ⟨?_, ?_⟩
  · rintro _ ⟨k, v, rfl⟩; rfl
  · rintro _ _ ⟨k, v, rfl⟩ ⟨k', v', rfl⟩
    exact outcome_of_oN rfl rfl (oN_MM ..) ⟨Equiv.head, Equiv.head.tail⟩

theorem kind_dynarray : JoinKind fun e => ∃ a, e = .dynamicArray a := by
  refine ⟨?_, ?_⟩
  · rintro _ ⟨a, rfl⟩; rfl
  · rintro _ _ ⟨a, rfl⟩ ⟨a', rfl⟩
    exact outcome_of_oN rfl rfl (oN_DD ..) Equiv.head

theorem kind_fixedarray (n : Nat) : JoinKind fun e => ∃ a, e = .fixedArray a n := by
  refine ⟨?_, ?_⟩
  · rintro _ ⟨a, rfl⟩; rfl
  · rintro _ _ ⟨a, rfl⟩ ⟨a', rfl⟩
    exact outcome_of_oN rfl rfl (by rw [oN_FF, if_pos rfl]) ⟨rfl, Equiv.head⟩

/-- From an accumulator of the kind: it stays, and the components of every later member are
equated to its own. -/
theorem JoinKind.fold {K : TE → Prop} (hK : JoinKind K) {r : TE} (hr : K r) : ∀ (l : List TE)
    (q : List (Nat × Nat)), (∀ e ∈ l, K e ∨ e = .any) →
    ∃ s, l.foldl step (r, q) = (r, q ++ s) ∧ ∀ e ∈ l, K e → ExprEqMod s r e := by
  intro l
  induction l with
  | nil => intro q _; exact ⟨[], by simp, nofun⟩
  | cons x l ih =>
    intro q hl
    have hl' : ∀ e ∈ l, K e ∨ e = .any := fun e he => hl e (List.mem_cons_of_mem _ he)
    by_cases hx : K x
    · obtain ⟨s1, h1, hx1⟩ := hK.join r x hr hx
      obtain ⟨s, hs, hE⟩ := ih (q ++ s1) hl'
      refine ⟨s1 ++ s, by rw [List.foldl_cons, step_eq, h1, hs, List.append_assoc], ?_⟩
      intro e he hke
      rcases List.mem_cons.1 he with rfl | he
      · exact ExprEqMod.mono (fun _ _ => Equiv.inl) hx1
      · exact ExprEqMod.mono (fun _ _ => Equiv.inr) (hE e he hke)
    · obtain rfl := (hl x List.mem_cons_self).resolve_left hx
      obtain ⟨s, hs, hE⟩ := ih (q ++ []) hl'
      refine ⟨s, by rw [List.foldl_cons, step_eq, outcome_any_r _ (hK.pf r hr), hs,
        List.append_nil], ?_⟩
      intro e he hke
      rcases List.mem_cons.1 he with rfl | he
      · exact absurd hke hx
      · exact hE e he hke

/-- From `any`: the first member of the kind becomes the representative. -/
theorem JoinKind.fold_any {K : TE → Prop} (hK : JoinKind K) : ∀ (l : List TE) (q : List (Nat × Nat)),
    (∀ e ∈ l, K e ∨ e = .any) → (∃ e ∈ l, K e) →
    ∃ r s, l.foldl step (.any, q) = (r, q ++ s) ∧ r ∈ l ∧ K r ∧ ∀ e ∈ l, K e → ExprEqMod s r e := by
  intro l
  induction l with
  | nil => intro q _ ⟨_, h, _⟩; cases h
  | cons x l ih =>
    intro q hl hex
    have hl' : ∀ e ∈ l, K e ∨ e = .any := fun e he => hl e (List.mem_cons_of_mem _ he)
    by_cases hx : K x
    · obtain ⟨s, hs, hE⟩ := hK.fold hx l (q ++ []) hl'
      refine ⟨x, s, by rw [List.foldl_cons, step_eq, outcome_any_l _ (hK.pf x hx), hs,
        List.append_nil], List.mem_cons_self, hx, ?_⟩
      intro e he hke
      rcases List.mem_cons.1 he with rfl | he
      · exact ExprEqMod.refl _ _
      · exact hE e he hke
    · obtain rfl := (hl x List.mem_cons_self).resolve_left hx
      obtain ⟨e, he, hke⟩ := hex
      obtain ⟨r, s, hs, hm, hr, hE⟩ := ih (q ++ []) hl'
        ⟨e, (List.mem_cons.1 he).resolve_left (fun h => hx (h ▸ hke)), hke⟩
      refine ⟨r, s, by rw [List.foldl_cons, step_eq, outcome_any_l _ rfl, hs, List.append_nil],
        List.mem_cons_of_mem _ hm, hr, ?_⟩
      intro e he hke
      rcases List.mem_cons.1 he with rfl | he
      · exact absurd hke hx
      · exact hE e he hke

/-- **Compatible evidence of one kind** keeps its structure — the result is one of the members of
the kind in the evidence — and equates its components with those of every other member, in
whatever order the evidence is folded. -/
theorem JoinKind.join_all {K : TE → Prop} (hK : JoinKind K) (l : List TE) (hne : l ≠ [])
    (hl : ∀ e ∈ l, K e ∨ e = .any) (hex : ∃ e ∈ l, K e) :
    ∃ r q, foldMerge l = some (r, q) ∧ r ∈ l ∧ K r ∧ ∀ e ∈ l, K e → ExprEqMod q r e := by
  cases l with
  | nil => exact absurd rfl hne
  | cons x l =>
    have hx : PF x = true := (hl x List.mem_cons_self).elim (hK.pf x) (fun h => h ▸ rfl)
    obtain ⟨r, s, hs, h⟩ := hK.fold_any (x :: l) [] hl hex
    exact ⟨r, [] ++ s, by rw [foldMerge_eq_fold_any x l hx, hs], h⟩

/-- Fixed arrays of one length `n`: the length is kept as well. -/
theorem consistent_fixedarrays_join (l : List TE) (n : Nat) : l ≠ [] →
    (∀ e ∈ l, (∃ a, e = TE.fixedArray a n) ∨ e = .any) → (∃ a, TE.fixedArray a n ∈ l) →
    ∃ a q, foldMerge l = some (TE.fixedArray a n, q) ∧ TE.fixedArray a n ∈ l ∧
      ∀ a', TE.fixedArray a' n ∈ l → Equiv q a a' := by
  intro hne hl ⟨a, hm⟩
  obtain ⟨_, q, hf, hr, ⟨a, rfl⟩, hE⟩ := (kind_fixedarray n).join_all l hne hl ⟨_, hm, a, rfl⟩
  exact ⟨a, q, hf, hr, fun a' h => (hE _ h ⟨a', rfl⟩).2⟩

/-! ## 4. Plain contradictions conflict, in every order -/

/-- A bad triple needs an absorbing constructor at one end. -/
theorem Bad_of_no_absorber (a b c : TE) (ha : absorber a = false) (hc : absorber c = false) :
    Bad a b c = false := by
  unfold Bad
  rw [hc]
  cases a <;> simp [absorber] at ha ⊢

theorem noBadTriple_of_no_absorber (l : List TE) (h : ∀ e ∈ l, absorber e = false) :
    NoBadTriple l :=
  fun a ha _ _ c hc => Bad_of_no_absorber a _ c (h a ha) (h c hc)

/-- `conflict` is absorbing. -/
theorem outcome_conflict_r (x : TE) (hx : PF x = true) : (outcome x .conflict).1 = .conflict := by
  rw [outcome_conf_r x hx]

/-- A fold that meets a member of an ideal, as its start or along the way, ends in the ideal. -/
theorem _root_.SLE.MergeLaws.Ideal.foldl {I : TE → Prop} (hI : Ideal I) : ∀ (l : List TE)
    (acc : Outcome), PF acc.1 = true → (∀ e ∈ l, PF e = true) → (∃ e ∈ acc.1 :: l, I e) →
    I (l.foldl step acc).1 := by
  intro l
  induction l with
  | nil =>
    rintro acc _ _ ⟨e, he, h⟩
    rw [List.mem_singleton] at he
    exact he ▸ h
  | cons x l ih =>
    rintro acc ha hl ⟨e, he, h⟩
    have hx := hl x List.mem_cons_self
    refine ih (step acc x) (step_pf acc x ha hx) (fun e he => hl e (List.mem_cons_of_mem _ he)) ?_
    rw [step_fst acc x ha hx]
    rcases List.mem_cons.1 he with rfl | he
    · exact ⟨_, List.mem_cons_self, (hI _ _ ha hx h).1⟩
    · rcases List.mem_cons.1 he with rfl | he
      · exact ⟨_, List.mem_cons_self, (hI _ _ hx ha h).2⟩
      · exact ⟨e, List.mem_cons_of_mem _ he, h⟩

theorem foldMerge_of_conflict {x : TE} {r : List TE} (h : (r.foldl step (x, [])).1 = .conflict) :
    ∃ q, foldMerge (x :: r) = some (.conflict, q) :=
  ⟨_, by rw [foldMerge_cons, ← h]⟩

theorem conflicts_self {a : TE} (ha : PF a = true) (h : conflicts a a = true) : a = .conflict := by
  unfold conflicts at h
  rw [outcome_eq a a ha ha] at h
  simpa [outcomeE] using h

/-- transport "the fold is a conflict" along a permutation -/
theorem conflict_of_perm {l l' : List TE} (hpf : ∀ e ∈ l, PF e = true) (hnb : NoBadTriple l)
    (hp : l.Perm l') (hne : l ≠ []) (h : ∃ q, foldMerge l' = some (.conflict, q)) :
    ∃ q, foldMerge l = some (.conflict, q) := by
  obtain ⟨o₁, o₂, h1, h2, he⟩ := foldMerge_perm hpf hnb hp hne
  obtain ⟨q, hq⟩ := h
  rw [hq] at h2
  cases h2
  rcases he with ⟨e1, _⟩ | ⟨_, e2, _⟩
  · obtain ⟨j, q₁⟩ := o₁
    simp only at e1
    subst e1
    exact ⟨q₁, h1⟩
  · exact absurd rfl e2

/-- **Plain contradictions conflict** — general form: on `Equal`-free, packed-free evidence that
contains no bad triple, two mutually contradictory pieces of evidence make the class a conflict,
wherever they sit in the list. -/
theorem contradiction_conflicts_of_noBadTriple (l : List TE) (hpf : ∀ e ∈ l, PF e = true)
    (hnb : NoBadTriple l) (h : ∃ a ∈ l, ∃ b ∈ l, conflicts a b = true) :
    ∃ q, foldMerge l = some (.conflict, q) := by
  obtain ⟨a, ha, b, hb, hc⟩ := h
  have hne : l ≠ [] := by intro e; subst e; cases ha
  have hp1 : l.Perm (a :: l.erase a) := List.perm_cons_erase ha
  have hpf1 : ∀ e ∈ l.erase a, PF e = true := fun e he => hpf e (List.mem_of_mem_erase he)
  rcases List.mem_cons.1 (hp1.mem_iff.1 hb) with rfl | hb'
  · -- `a` contradicts itself: it is `conflict`, which stays wherever it sits
    have := conflicts_self (hpf _ ha) hc
    subst this
    cases l with
    | nil => cases ha
    | cons x r =>
      exact foldMerge_of_conflict (Ideal.foldl ideal_conflict r (x, []) (hpf x List.mem_cons_self)
        (fun e he => hpf e (List.mem_cons_of_mem _ he)) ⟨_, ha, rfl⟩)
  · -- bring `a` and `b` to the front: their merge is a conflict, which stays
    have hp2 : (l.erase a).Perm (b :: (l.erase a).erase b) := List.perm_cons_erase hb'
    have hp : l.Perm (a :: b :: (l.erase a).erase b) := hp1.trans (hp2.cons a)
    refine conflict_of_perm hpf hnb hp hne (foldMerge_of_conflict ?_)
    exact Ideal.foldl ideal_conflict _ (step (a, []) b) (step_pf _ _ (hpf a ha) (hpf b hb))
      (fun e he => hpf1 e (List.mem_of_mem_erase he)) ⟨_, List.mem_cons_self, eq_of_beq hc⟩

/-- **Plain contradictions conflict**, in every order, on absorber-free evidence. -/
theorem contradiction_conflicts (l : List TE) : (∀ e ∈ l, PF e = true) →
    (∀ e ∈ l, absorber e = false) → (∃ a ∈ l, ∃ b ∈ l, conflicts a b = true) →
    ∃ q, foldMerge l = some (.conflict, q) :=
  fun hpf hab h => contradiction_conflicts_of_noBadTriple l hpf (noBadTriple_of_no_absorber l hab) h

/-! ### the property's examples are instances of `conflicts … = true` -/

/-- two different known widths -/
theorem conflicts_widths (a b : Nat) (u1 u2 : WordUse) (h : a ≠ b) :
    conflicts (.word (some a) u1) (.word (some b) u2) = true := by
  rw [conflicts_eq _ _ rfl rfl, conflictsN_WW, wj_isSome]
  simp [wjoin, h]

/-- usages without a join -/
theorem conflicts_usages (w1 w2 : Option Nat) (u1 u2 : WordUse) (h : u1.merge u2 = none) :
    conflicts (.word w1 u1) (.word w2 u2) = true := by
  rw [conflicts_eq _ _ rfl rfl, conflictsN_WW, wj_isSome]
  simp [h]

theorem conflicts_signed_unsigned (w1 w2 : Option Nat) :
    conflicts (.word w1 .signedNumeric) (.word w2 .unsignedNumeric) = true :=
  conflicts_usages _ _ _ _ rfl

theorem conflicts_signed_address (w1 w2 : Option Nat) :
    conflicts (.word w1 .signedNumeric) (.word w2 .address) = true :=
  conflicts_usages _ _ _ _ rfl

theorem conflicts_bool_address (w1 w2 : Option Nat) :
    conflicts (.word w1 .bool) (.word w2 .address) = true :=
  conflicts_usages _ _ _ _ rfl

theorem conflicts_bool_numeric (w1 w2 : Option Nat) :
    conflicts (.word w1 .bool) (.word w2 .numeric) = true :=
  conflicts_usages _ _ _ _ rfl

/-- a mapping against a fixed array, a dynamic array, a word (sized or not) -/
theorem conflicts_mapping_fixedArray (k v e n : Nat) :
    conflicts (.mapping k v) (.fixedArray e n) = true := by
  rw [conflicts_eq _ _ rfl rfl]; rfl

theorem conflicts_mapping_dynamicArray (k v e : Nat) :
    conflicts (.mapping k v) (.dynamicArray e) = true := by
  rw [conflicts_eq _ _ rfl rfl]; rfl

theorem conflicts_mapping_word (k v : Nat) (w : Option Nat) (u : WordUse) :
    conflicts (.mapping k v) (.word w u) = true := by
  rw [conflicts_eq _ _ rfl rfl]; rfl

theorem conflicts_fixedArray_word (e n : Nat) (w : Option Nat) (u : WordUse) :
    conflicts (.fixedArray e n) (.word w u) = true := by
  rw [conflicts_eq _ _ rfl rfl]; rfl

/-- fixed arrays of different lengths -/
theorem conflicts_fixedArray_lengths (e1 n1 e2 n2 : Nat) (h : n1 ≠ n2) :
    conflicts (.fixedArray e1 n1) (.fixedArray e2 n2) = true := by
  rw [conflicts_eq _ _ rfl rfl]
  simp [conflictsN, oN_FF, h]

/-- `conflicts` is symmetric on the fragment. -/
theorem conflicts_symm (a b : TE) (ha : PF a = true) (hb : PF b = true) :
    conflicts a b = conflicts b a := by
  have h := merge_comm a b ha hb
  unfold conflicts
  rcases h with ⟨h1, h2⟩ | ⟨h1, h2, _⟩
  · simp [h1, h2]
  · rw [beq_eq_false_iff_ne.2 h1, beq_eq_false_iff_ne.2 h2]

/-! ### … and at the level of a class -/

theorem two_widths_conflict (l : List TE) (hpf : ∀ e ∈ l, PF e = true)
    (hab : ∀ e ∈ l, absorber e = false) (a b : Nat) (u1 u2 : WordUse)
    (h1 : .word (some a) u1 ∈ l) (h2 : .word (some b) u2 ∈ l) (hne : a ≠ b) :
    ∃ q, foldMerge l = some (.conflict, q) :=
  contradiction_conflicts l hpf hab ⟨_, h1, _, h2, conflicts_widths a b u1 u2 hne⟩

theorem incompatible_usages_conflict (l : List TE) (hpf : ∀ e ∈ l, PF e = true)
    (hab : ∀ e ∈ l, absorber e = false) (w1 w2 : Option Nat) (u1 u2 : WordUse)
    (h1 : .word w1 u1 ∈ l) (h2 : .word w2 u2 ∈ l) (hne : u1.merge u2 = none) :
    ∃ q, foldMerge l = some (.conflict, q) :=
  contradiction_conflicts l hpf hab ⟨_, h1, _, h2, conflicts_usages w1 w2 u1 u2 hne⟩

theorem mapping_vs_fixedArray_conflict (l : List TE) (hpf : ∀ e ∈ l, PF e = true)
    (hab : ∀ e ∈ l, absorber e = false) (k v e n : Nat)
    (h1 : .mapping k v ∈ l) (h2 : .fixedArray e n ∈ l) :
    ∃ q, foldMerge l = some (.conflict, q) :=
  contradiction_conflicts l hpf hab ⟨_, h1, _, h2, conflicts_mapping_fixedArray k v e n⟩

theorem mapping_vs_word_conflict (l : List TE) (hpf : ∀ e ∈ l, PF e = true)
    (hab : ∀ e ∈ l, absorber e = false) (k v : Nat) (w : Option Nat) (u : WordUse)
    (h1 : .mapping k v ∈ l) (h2 : .word w u ∈ l) :
    ∃ q, foldMerge l = some (.conflict, q) :=
  contradiction_conflicts l hpf hab ⟨_, h1, _, h2, conflicts_mapping_word k v w u⟩

/-- The absorber hypothesis is needed for the pinned code (finding D11): dynamic `bytes` swallows
`bool` and `address` one at a time although they contradict each other. -/
theorem contradiction_swallowed_witness :
    foldMerge [.bytes, .word (some 8) .bool, .word (some 160) .address] = some (.bytes, []) :=
  rfl

theorem contradiction_swallowed_witness_conflicts :
    conflicts (.word (some 8) .bool) (.word (some 160) .address) = true :=
  conflicts_widths 8 160 _ _ (by decide)

/-- … so `contradiction_conflicts` is false without a hypothesis excluding absorbers/bad triples. -/
theorem absorber_hypothesis_needed :
    ¬ ∀ l : List TE, (∀ e ∈ l, PF e = true) → (∃ a ∈ l, ∃ b ∈ l, conflicts a b = true) →
        ∃ q, foldMerge l = some (.conflict, q) := by
  intro h
  obtain ⟨q, hq⟩ := h [.bytes, .word (some 8) .bool, .word (some 160) .address] (by decide)
    ⟨_, by simp, _, by simp, contradiction_swallowed_witness_conflicts⟩
  rw [contradiction_swallowed_witness] at hq
  cases hq

/-! ## 5. Rigid constructors (mappings, fixed arrays) conflict with everything else — no
hypothesis on absorbers is needed for these -/

/-- Evidence of a rigid kind together with anything that is neither of that kind nor `any` is a
conflict, wherever the two sit in the list and whatever else (absorbers included) is there. -/
theorem rigid_conflict {K : TE → Bool} (hK : Rigid K) (l : List TE) (hpf : ∀ e ∈ l, PF e = true)
    (m : TE) (hm : m ∈ l) (hkm : K m = true) (x : TE) (hx : x ∈ l)
    (hkx : (K x || x == .any) = false) : ∃ q, foldMerge l = some (.conflict, q) := by
  cases l with
  | nil => cases hm
  | cons f r =>
    have hf : PF f = true := hpf f List.mem_cons_self
    have hr : ∀ e ∈ r, PF e = true := fun e he => hpf e (List.mem_cons_of_mem _ he)
    have h1 := Ideal.foldl hK.own r (f, []) hf hr ⟨m, hm, .inl hkm⟩
    have h2 := Ideal.foldl hK.other r (f, []) hf hr ⟨x, hx, hkx⟩
    exact foldMerge_of_conflict (h1.resolve_left fun hk => by rw [hk] at h2; cases h2)

/-- **A mapping against anything but a mapping (or no information) is a conflict** — a fixed or
dynamic array, a word of any width, dynamic bytes — in every order and whatever else is in the
class. -/
theorem mapping_contradiction_conflicts (l : List TE) (hpf : ∀ e ∈ l, PF e = true) (k v : Nat)
    (hm : .mapping k v ∈ l) (x : TE) (hx : x ∈ l) (hx1 : x ≠ .any)
    (hx2 : ∀ k' v', x ≠ .mapping k' v') : ∃ q, foldMerge l = some (.conflict, q) := by
  refine rigid_conflict rigid_mapping l hpf _ hm rfl x hx ?_
  cases x <;> simp [isMapping] at hx1 hx2 ⊢

/-- **A fixed array against anything but a fixed array of the same length (or no information) is a
conflict**, in every order and whatever else is in the class. -/
theorem fixedArray_contradiction_conflicts (l : List TE) (hpf : ∀ e ∈ l, PF e = true) (e n : Nat)
    (hm : .fixedArray e n ∈ l) (x : TE) (hx : x ∈ l) (hx1 : x ≠ .any)
    (hx2 : ∀ e', x ≠ .fixedArray e' n) : ∃ q, foldMerge l = some (.conflict, q) := by
  refine rigid_conflict (rigid_fixed n) l hpf _ hm (by simp [isFixed]) x hx ?_
  cases x <;> simp [isFixed] at hx1 hx2 ⊢
  exact hx2

theorem mapping_vs_dynamicArray_conflict (l : List TE) (hpf : ∀ e ∈ l, PF e = true)
    (k v e : Nat) (h1 : .mapping k v ∈ l) (h2 : .dynamicArray e ∈ l) :
    ∃ q, foldMerge l = some (.conflict, q) :=
  mapping_contradiction_conflicts l hpf k v h1 _ h2 (by simp) (by simp)

end SLE.Join
