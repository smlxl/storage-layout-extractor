import SLE.Lemmas.VMInv
/-!
C01 — the analysis never crashes the process: the model constructs `XErr.panic` nowhere, neither
in the data effect of an instruction (`execOp`) nor in the machine loop (`step`/`advance`/`run`).
-/

/-- The error stands for a process-level crash. -/
def SLE.VM.XErr.isPanic : SLE.VM.XErr → Bool
  | .panic _ => true
  | _ => false

namespace SLE.VMNoPanic
open SLE SLE.SV SLE.VM
open SLE.Disasm (Instr)

theorem isPanic_of_jumpKind {e : XErr} (h : e.isJumpKind = true) : e.isPanic = false := by
  cases e <;> first | rfl | cases h

/-- The data effect of an instruction never reports a panic: its hard errors are stack errors
or jump kinds (`VMInv.execOp_err`), its soft error is a jump kind (`execOp_softErr`). -/
theorem execOp_no_panic : ∀ c code ins d ctr,
    (∀ e, (execOp c code ins d ctr).err = some e → e.isPanic = false) ∧
    (∀ e, (execOp c code ins d ctr).softErr = some e → e.isPanic = false) := by
  intro c code ins d ctr
  refine ⟨fun e he => ?_, fun e he => isPanic_of_jumpKind (execOp_softErr he)⟩
  rcases VMInv.execOp_err he with rfl | rfl | hj
  · rfl
  · rfl
  · exact isPanic_of_jumpKind hj

/-! ### the machine loop -/

/-- No recorded error and no abort reason is a panic. -/
def Clean (s : VMS) : Prop :=
  (∀ p ∈ s.errors, p.2.isPanic = false) ∧ (∀ e, s.aborted = some e → e.isPanic = false)

theorem clean_init (cfg : Cfg) (code : List Instr) : Clean (initVM cfg code) :=
  ⟨nofun, nofun⟩

theorem clean_record {s s' : VMS} {x : Nat × XErr} (h : Clean s) (hx : x.2.isPanic = false)
    (he : ∀ p ∈ s'.errors, p ∈ s.errors ∨ p = x) (ha : s'.aborted = s.aborted) : Clean s' :=
  ⟨fun p hp => (he p hp).elim (h.1 p) fun e => e ▸ hx, ha ▸ h.2⟩

theorem clean_abort {s : VMS} {e : XErr} (h : Clean s) (he : e.isPanic = false) :
    Clean { s with aborted := some e } :=
  ⟨h.1, fun e' h' => by cases h'; exact he⟩

theorem clean_advance {cfg : Cfg} {code : List Instr} {s : VMS} (h : Clean s) :
    Clean (advance cfg code s) := by
  cases hq : s.queue with
  | nil => rw [advance_nil hq]; exact clean_abort h rfl
  | cons t rest =>
    rw [advance_cons hq]
    split
    · refine clean_record (x := (t.ip, .gasLimitExceeded)) h rfl (fun p hp => ?_) rfl
      dsimp only at hp
      split at hp
      · exact (mem_insertLocated _ _ _).mp hp
      · exact .inl hp
    · exact h

/-- One iteration of the machine loop keeps the state free of panics: what it records is
`GasLimitExceeded` or what the instruction returned (`execOp_no_panic`), and its early exits are
`InstructionPointerOutOfBounds` and a panic of the instruction, which there is none. -/
theorem step_no_panic {cfg : Cfg} {code : List Instr} {s : VMS} (h : Clean s) :
    Clean (step cfg code s) := by
  have hnp := fun (t : Thread) ins =>
    execOp_no_panic { cfg := cfg, ip := t.ip, codeLen := code.length } code ins t.d s.ctr
  refine step_cases (motive := Clean) (fun _ => h) (fun _ _ _ _ => clean_abort h rfl)
    (fun t _ ins site _ _ he => nomatch (hnp t ins).1 _ he)
    (fun t rest ins _ _ _ => clean_advance ?_) (fun t rest ins e _ _ he _ => clean_advance ?_)
  · refine midOk_cases (motive := Clean) (fun _ _ => h) (fun _ _ _ _ => h) (fun e _ _ he => ?_) (fun _ _ => h)
    refine clean_record (x := (t.ip, e)) h ((hnp t ins).2 e he) (fun p hp => ?_) rfl
    dsimp only at hp
    split at hp
    · exact .inl hp
    · exact (List.mem_append.mp hp).imp_right List.mem_singleton.mp
  · refine clean_record (x := (t.ip, e)) h ((hnp t ins).1 e he) (fun p hp => ?_) rfl
    simp only [midErr] at hp
    split at hp
    · exact .inl hp
    · exact (List.mem_append.mp hp).imp_right List.mem_singleton.mp

theorem run_no_panic : ∀ cfg code fuel, Clean (run cfg code fuel (initVM cfg code)) :=
  fun cfg code fuel => run_induction (P := Clean) (fun _ => step_no_panic) fuel _ (clean_init cfg code)

/-- C01. The analysis never aborts with, nor records, a panic. -/
theorem run_never_panics : ∀ cfg code fuel site,
    (run cfg code fuel (initVM cfg code)).aborted ≠ some (.panic site) ∧
    ∀ l, (l, XErr.panic site) ∉ (run cfg code fuel (initVM cfg code)).errors := by
  intro cfg code fuel site
  have h := run_no_panic cfg code fuel
  refine ⟨fun ha => ?_, fun l hl => ?_⟩
  · have := h.2 _ ha
    cases this
  · have := h.1 _ hl
    cases this

end SLE.VMNoPanic

section
open SLE SLE.SV SLE.VM
#print axioms SLE.VMNoPanic.execOp_no_panic
#print axioms SLE.VMNoPanic.step_no_panic
#print axioms SLE.VMNoPanic.run_no_panic
#print axioms SLE.VMNoPanic.run_never_panics
end
