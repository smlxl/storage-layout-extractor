import SLE.Lemmas.PathSim
import SLE.Lemmas.ProgramLevel
/-!
# Every literal of every value of a reachable machine state is a 256-bit word (`LitOK`)

`PathSim` proves the path simulation under `∀ s, MReach cfg code s → SideOK code s`.  The part of
`SideOK` about jumps — `TargetOK` of the operand of JUMP/JUMPI — follows from `Bridge.LitOK` of that
operand (`Bridge.fold_agree`), and `LitOK` is an invariant of the machine: it is one more value
predicate that the builders keep (`builds_lit`), so the invariant is an instance of `VMInv`
(`DataInv.execOp`, `ti_step`, `ti_run`).  What is left to ask of the program is that storage keys
and memory offsets are pushed literals (`KeysLiteral`).  `litBad` of this namespace is declared in `VMInv`, where the builders'
invariant needs it.
-/
namespace SLE.LitInv
open SLE SLE.SV SLE.VM SLE.TCSpec
open SLE.Disasm (Instr)
open SLE.PathSim.Bridge (LitOK LitOKs)
open SLE.LiftInv (NoP NoP_node)
open SLE.ProgramLevel (DI P_D P_S dataVals P_D_iff TI di_fork di_empty P_S_iff pd_fork)
open SLE.VMInv

/-! ### the value predicate -/

def AttrOK (k : Kind) (a : List Nat) : Prop := k = .knownData → ∀ w r, a = w :: r → w < 2 ^ 256

theorem attrOK_of_ne {k : Kind} {a : List Nat} (h : k ≠ .knownData) : AttrOK k a :=
  fun hk => absurd hk h

theorem attrOK_word (w : Word) : AttrOK .knownData [w.toNat] := by
  intro _ w0 r h
  cases h
  exact w.isLt

theorem LitOKs_iff : ∀ ks : List SV, LitOKs ks ↔ ∀ x ∈ ks, LitOK x
  | [] => by simp [LitOKs]
  | k :: ks => by
    unfold LitOKs
    rw [LitOKs_iff ks]
    simp

theorem L_node_aux {k a ks s} : LitOK (.node k a ks s) ↔ AttrOK k a ∧ LitOKs ks := by
  unfold LitOK
  exact Iff.rfl

theorem L_node {k a ks s} : LitOK (.node k a ks s) ↔ AttrOK k a ∧ ∀ x ∈ ks, LitOK x := by
  rw [L_node_aux, LitOKs_iff]

theorem L_rebuild {k a ks} : LitOK (rebuild k a ks) ↔ AttrOK k a ∧ ∀ x ∈ ks, LitOK x := by
  simp only [rebuild, L_node]

theorem L_mkKnown (w : Word) : LitOK (mkKnown w) := by
  simp only [mkKnown, L_node]
  exact ⟨attrOK_word w, by simp⟩

theorem L_mkValue (i : Nat) : LitOK (mkValue i) := by
  simp only [mkValue, L_node]
  exact ⟨attrOK_of_ne (by decide), by simp⟩

mutual
theorem L_fold_all : ∀ t, LitOK t → LitOK (fold t)
  | .node k a ks s, ht => by
    rw [L_node] at ht
    simp only [fold]
    rcases foldNode_shape k a (foldList ks) with ⟨w, h, _⟩ | h
    · rw [h]; exact L_mkKnown w
    · rw [h, L_rebuild]; exact ⟨ht.1, L_foldList ks ht.2⟩
theorem L_foldList : ∀ l : List SV, (∀ x ∈ l, LitOK x) → ∀ x ∈ foldList l, LitOK x
  | [], _ => by simp [foldList]
  | y :: ys, hl => by
    simp only [foldList, List.mem_cons, forall_eq_or_imp]
    exact ⟨L_fold_all y (hl y (by simp)), L_foldList ys (fun x hx => hl x (by simp [hx]))⟩
end

theorem L_fold {v : SV} (hv : LitOK v) : LitOK (fold v) := L_fold_all v hv

theorem L_mk {lim fresh k a ks} (hk : AttrOK k a) (hks : ∀ x ∈ ks, LitOK x) :
    LitOK (SV.mk lim fresh k a ks) := by
  unfold SV.mk
  split
  · dsimp only
    split
    · exact L_mkValue _
    · exact L_node.mpr ⟨hk, hks⟩
  · exact L_node.mpr ⟨hk, hks⟩

/-! ### `LitOK` is kept by the builders and by storage -/

theorem attrOK_of_litBad {k : Kind} {a : List Nat} (h : litBad k a = false) : AttrOK k a := by
  intro hk w r ha
  subst hk ha
  simp only [litBad, beq_self_eq_true, Bool.true_and, decide_eq_false_iff_not] at h
  omega

mutual
theorem L_of_NoP : ∀ t : SV, NoP litBad t → LitOK t
  | .node k a ks s, ht => by
    rw [NoP_node] at ht
    exact L_node.mpr ⟨attrOK_of_litBad ht.1, L_of_NoP_list ks ht.2⟩
theorem L_of_NoP_list : ∀ l : List SV, (∀ x ∈ l, NoP litBad x) → ∀ x ∈ l, LitOK x
  | [], _ => by simp
  | y :: ys, hl => by
    simp only [List.mem_cons, forall_eq_or_imp]
    exact ⟨L_of_NoP y (hl y (by simp)), L_of_NoP_list ys (fun x hx => hl x (by simp [hx]))⟩
end

theorem builds_lit (c : Ctx) : Builds c LitOK LitOK where
  weaken := id
  node := fun hk hks => L_mk (attrOK_of_litBad (Bool.or_eq_false_iff.mp hk).2) hks
  fresh := L_mkValue _
  zero := L_mkKnown _
  fold := L_fold
  concat := fun hvs => L_rebuild.mpr ⟨attrOK_of_ne (by decide), hvs⟩

theorem storage_lit (c : Ctx) : Storage c LitOK LitOK LitOK LitOK where
  key := id
  gen := id
  placeholder := fun hk => L_rebuild.mpr ⟨attrOK_of_ne (by decide), all_cons hk all_nil⟩
  weaken := id
  kids := fun h => (L_node.mp h).2
  sload := fun hks => L_rebuild.mpr ⟨attrOK_of_ne (by decide), hks⟩
  recheck := fun h _ => h

theorem instantiate_go_P (c : Ctx) (args : List SV) (ha : ∀ a ∈ args, LitOK a) :
    ∀ (ts : List SV) (n : Nat), (∀ t ∈ ts, LitOK t) →
      ∀ x ∈ (instantiate.go c args ts n).1, LitOK x :=
  instantiate_go_keeps (N := AttrOK) L_node.mp L_mk
    (fun hk _ => attrOK_of_ne (by rw [eq_of_beq hk]; decide)) (L_mkValue _) ha

section out
variable {S : SV → Prop}

theorem memLoad_v' {d : TData} {off : SV} (h : DI LitOK S d) (ho : LitOK off) :
    LitOK (memLoad d off).1 := ((di_iff.mp h).memLoad (L_mkKnown _) (L_fold ho)).1
theorem memLoad_d' {d : TData} {off : SV} (h : DI LitOK S d) (ho : LitOK off) :
    DI LitOK S (memLoad d off).2 :=
  di_iff.mpr ((di_iff.mp h).memLoad (L_mkKnown _) (L_fold ho)).2

end out

/-! ### `LitOK` is an invariant of the machine -/

/-- One instruction keeps every literal of every value of the thread state a 256-bit word. -/
theorem litOK_execOp (c : Ctx) (code : List Instr) (ins : Instr) (d : TData) (ctr : Nat) :
    P_D LitOK d → P_D LitOK (execOp c code ins d ctr).d := by
  intro h
  exact P_D_iff.mpr (di_iff.mpr
    (DataInv.execOp (builds_lit c) (di_iff.mp (P_D_iff.mp h)) (fun _ => storage_lit c)).d)

theorem litOK_init (cfg : Cfg) (code : List Instr) : P_S LitOK (initVM cfg code) :=
  ti_init (P_D_iff.mpr di_empty)

/-- Every value of every thread (queued or stored) of a run from the initial state is `LitOK`. -/
theorem litOK_run (cfg : Cfg) (code : List Instr) (fuel : Nat) :
    P_S LitOK (run cfg code fuel (initVM cfg code)) :=
  ti_run pd_fork (fun _ ins d ctr _ h => litOK_execOp _ code ins d ctr h) fuel _
    (litOK_init cfg code)

theorem litOK_reachable {cfg : Cfg} {code : List Instr} :
    ∀ s, PathSim.MReach cfg code s → P_S LitOK s := by
  intro s hs
  induction hs with
  | init => exact litOK_init cfg code
  | step _ ih =>
    exact ti_step pd_fork (fun _ ins d ctr _ h => litOK_execOp _ code ins d ctr h) ih

/-! ### the jump operand -/

/-- In every reachable machine state, if the head thread stands on a JUMP or a JUMPI, the
operand on top of its stack satisfies `TargetOK`: whenever constant folding resolves it to a
constant, that constant is the value the tree denotes.  No hypothesis on the program. -/
theorem targetOK_reachable {cfg : Cfg} {code : List Instr} (s : VMS)
    (hs : PathSim.MReach cfg code s) :
    ∀ t rest ins, s.queue = t :: rest → code[t.ip]? = some ins →
      (ins = .op 0x56 ∨ ins = .op 0x57) → ∀ k r, t.d.stack = k :: r → PathSim.TargetOK k := by
  intro t rest ins hq _ _ k r hk
  apply PathSim.targetOK_of_litOK
  have hP : P_D LitOK t.d := litOK_reachable s hs t (by rw [hq]; simp)
  exact hP k (by simp [dataVals, hk])

/-! ### the path simulation with computed jump targets -/

open SLE.PathSim (Prog MReach SideOK PrecededByPush PushGuarded InScope RReach arr dat dropK)
open SLE.EvmSim (Rel)

/-- what remains of `PushGuarded`: every SLOAD/SSTORE/MLOAD/MSTORE is immediately preceded
by a PUSH (of an offset below 2^64 for the memory instructions).  Nothing is asked of JUMP/JUMPI. -/
def KeysLiteral (code : List Instr) : Prop :=
  ∀ i b, code[i]? = some (.op b) →
    ((b = 0x54 ∨ b = 0x55) → PrecededByPush code i (fun _ => True)) ∧
    ((b = 0x51 ∨ b = 0x52) → PrecededByPush code i (fun v => v < 2 ^ 64))

theorem keysLiteral_of_guarded {code : List Instr} (h : PushGuarded code) : KeysLiteral code :=
  fun i b hi => ⟨fun hb => (h i b hi).1 (by omega), (h i b hi).2⟩

section keys
variable {bytes : List Nat} {code : List Instr} {cfg : Cfg}

/-- The side conditions of the path simulation hold in every reachable state as soon as the
storage keys and memory offsets are pushed literals; the jump part holds for every program. -/
theorem sideOK_of_keysLiteral (H : Prog bytes code) (hk : KeysLiteral code)
    (hlim : 1 ≤ cfg.valueLimit) : ∀ s, MReach cfg code s → SideOK code s := by
  intro s hs t rest ins hq hi
  refine ⟨?_, fun hb => targetOK_reachable s hs t rest ins hq hi hb⟩
  have hL : PathSim.LInv code t := PathSim.linv_reach H cfg hlim s hs t (by rw [hq]; simp)
  cases ins with
  | nop => exact trivial
  | push n dta => exact trivial
  | invalid b => exact trivial
  | op b =>
    have hG := hk t.ip b hi
    have top : ∀ P : Nat → Prop, b ≠ 0x5b → PrecededByPush code t.ip P →
        ∀ k r, t.d.stack = k :: r → ∃ w : Word, k = mkKnown w ∧ P w.toNat :=
      fun P hb hpre k r hk => hL.top_literal (by rw [hi]; intro h; cases h; exact hb rfl) hpre hk
    refine ⟨?_, ?_⟩
    · intro hb k r hk
      obtain ⟨w, hw, _⟩ := top _ (by omega) (hG.1 hb) k r hk
      exact ⟨w, hw⟩
    · intro hb k r hk
      exact top _ (by omega) (hG.2 hb) k r hk

theorem inv_reach_keys (H : Prog bytes code) (hsc : InScope bytes) (hk : KeysLiteral code)
    (cfg : Cfg) (hlim : 1 ≤ cfg.valueLimit) :
    ∀ s, MReach cfg code s → PathSim.Inv bytes code s :=
  PathSim.inv_reach H hsc cfg (sideOK_of_keysLiteral H hk hlim)

/-- C08 soundness under `KeysLiteral`: every executed offset that holds a real
instruction is reachable by the reference EVM, whatever the shape of the jump operands. -/
theorem executed_is_evm_reachable_keys (H : Prog bytes code) (hsc : InScope bytes)
    (hk : KeysLiteral code) (cfg : Cfg) (hlim : 1 ≤ cfg.valueLimit) (fuel : Nat) :
    ∀ t ∈ (run cfg code fuel (initVM cfg code)).queue ++ (run cfg code fuel (initVM cfg code)).stored,
      ∀ i ins, t.visited.getD i 0 ≠ 0 → code[i]? = some ins → ins ≠ .nop →
        ∃ cs, RReach (arr bytes) (dat bytes) (i, cs) :=
  PathSim.executed_is_evm_reachable' H hsc cfg (sideOK_of_keysLiteral H hk hlim) _
    (PathSim.mreach_run fuel _ MReach.init)

/-- C07 for stored threads under `KeysLiteral`. -/
theorem stored_state_matches_a_path_keys (H : Prog bytes code) (hsc : InScope bytes)
    (hk : KeysLiteral code) (cfg : Cfg) (hlim : 1 ≤ cfg.valueLimit) (fuel : Nat) :
    ∀ t ∈ (run cfg code fuel (initVM cfg code)).stored,
      ∃ pc cs k, RReach (arr bytes) (dat bytes) (pc, cs) ∧ Rel t.d (dropK k cs) :=
  PathSim.stored_state_matches_a_path_partial H hsc cfg (sideOK_of_keysLiteral H hk hlim) _
    (PathSim.mreach_run fuel _ MReach.init)

end keys

/-! ### non-vacuity: a computed jump target

`PUSH1 2; PUSH1 4; ADD; JUMP; JUMPDEST; STOP` computes its jump target (2 + 4 = 6): it is not
`PushGuarded` (the JUMP is preceded by an ADD), but it is `KeysLiteral`, so the corollaries apply. -/

def exBytes : List Nat := [0x60, 2, 0x60, 4, 0x01, 0x56, 0x5b, 0x00]
def exCode : List Instr :=
  [.push 1 [2], .nop, .push 1 [4], .nop, .op 0x01, .op 0x56, .op 0x5b, .op 0x00]

theorem ex_prog : Prog exBytes exCode := ⟨by decide, by decide, by rfl⟩

theorem ex_inScope : InScope exBytes := by
  intro code h
  have h' : Disasm.disasm exBytes = .ok exCode := by rfl
  rw [h'] at h
  cases h
  intro ins hins
  simp only [exCode, List.mem_cons, List.not_mem_nil, or_false] at hins
  rcases hins with rfl | rfl | rfl | rfl | rfl | rfl | rfl | rfl
  all_goals simp [PathSim.InsOK, PathSim.DataOp, EvmSim.scopeOps, EvmSim.aluOk]

theorem ex_keysLiteral : KeysLiteral exCode := by
  intro i b hi
  rcases i with _ | _ | _ | _ | _ | _ | _ | _ | i
  all_goals simp [exCode] at hi
  all_goals subst hi
  all_goals exact ⟨fun h => by omega, fun h => by omega⟩

theorem ex_not_guarded : ¬ PushGuarded exCode := by
  intro h
  rcases (h 5 0x56 rfl).1 (by omega) with ⟨p, n, dta, hp, hpn, _⟩ | ⟨p, hp, hpn, _⟩
  · have hp5 : p < 5 := by omega
    rcases p with _ | _ | _ | _ | _ | p
    all_goals simp [exCode] at hp
    all_goals omega
  · have hp4 : p = 4 := by omega
    subst hp4
    simp [exCode] at hp

/-- the JUMPDEST at offset 6, reached through the computed jump, is reference-reachable -/
example (cfg : Cfg) (hlim : 1 ≤ cfg.valueLimit) (fuel : Nat) :
    ∀ t ∈ (run cfg exCode fuel (initVM cfg exCode)).queue ++
        (run cfg exCode fuel (initVM cfg exCode)).stored,
      t.visited.getD 6 0 ≠ 0 → ∃ cs, RReach (arr exBytes) (dat exBytes) (6, cs) :=
  fun t ht hv => executed_is_evm_reachable_keys ex_prog ex_inScope ex_keysLiteral cfg hlim fuel t ht
    6 (.op 0x5b) hv rfl (by simp)

end SLE.LitInv

section
open SLE SLE.SV SLE.VM
#print axioms SLE.LitInv.litOK_execOp
#print axioms SLE.LitInv.litOK_run
#print axioms SLE.LitInv.litOK_reachable
#print axioms SLE.LitInv.targetOK_reachable
#print axioms SLE.LitInv.sideOK_of_keysLiteral
#print axioms SLE.LitInv.executed_is_evm_reachable_keys
#print axioms SLE.LitInv.stored_state_matches_a_path_keys
end
