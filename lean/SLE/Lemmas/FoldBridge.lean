import SLE.Lemmas.EvmSim
import SLE.Lemmas.Word
/-!
# Constant folding against the reference evaluation

`fold_agree`: on a tree all of whose literals are 256-bit words, the constant the tool's
`constant_fold` produces is the value `EvalC.evalSV` (reference EVM operators over the naturals)
assigns to the tree — for all 19 binary and 2 unary foldable operators.  The names live in
`SLE.PathSim.Bridge`: the path simulation is their user (`TargetOK` of a jump operand), and the
property files refer to them there.
-/
namespace SLE.PathSim
open SLE SLE.SV SLE.VM SLE.EvalC SLE.EvmSim

namespace Bridge
open SLE.WordLemmas

theorem W_eq : EVM.W = 2 ^ 256 := rfl

theorem k_add (a b : Word) : (Known.add a b).toNat = EVM.add a.toNat b.toNat := by
  simp [Known.add, EVM.add, EVM.W, BitVec.toNat_add]

theorem k_mul (a b : Word) : (Known.mul a b).toNat = EVM.mul a.toNat b.toNat := by
  simp [Known.mul, EVM.mul, EVM.W, BitVec.toNat_mul]

theorem k_sub (a b : Word) : (Known.sub a b).toNat = EVM.sub a.toNat b.toNat := by
  have ha := a.isLt
  have hb := b.isLt
  simp only [Known.sub, EVM.sub, EVM.W, BitVec.toNat_sub]
  congr 1
  omega

theorem k_div (a b : Word) : (Known.div a b).toNat = EVM.div a.toNat b.toNat := by
  rw [div_eq]
  unfold Spec.div EVM.div
  split
  · rfl
  · rw [BitVec.toNat_ofNat]
    apply Nat.mod_eq_of_lt
    exact Nat.lt_of_le_of_lt (Nat.div_le_self _ _) a.isLt

theorem k_rem (a b : Word) : (Known.rem a b).toNat = EVM.mod a.toNat b.toNat := by
  rw [rem_eq]
  unfold Spec.mod EVM.mod
  split
  · rfl
  · rw [BitVec.toNat_ofNat]
    apply Nat.mod_eq_of_lt
    exact Nat.lt_of_le_of_lt (Nat.mod_le _ _) a.isLt

theorem toInt_eq (a : Word) : a.toInt = EVM.toInt a.toNat := by
  have ha := a.isLt
  rw [BitVec.toInt_eq_toNat_cond]
  unfold EVM.toInt EVM.W
  split <;> split <;> first | rfl | omega | (simp; omega)

theorem ofInt_eq (i : Int) : (BitVec.ofInt 256 i).toNat = EVM.ofInt i := by
  rw [BitVec.toNat_ofInt]; rfl

theorem toInt_zero_iff (b : Word) : b.toInt = 0 ↔ b.toNat = 0 := by
  have hb := b.isLt
  rw [BitVec.toInt_eq_toNat_cond]
  split <;> omega

theorem k_sdiv (a b : Word) : (Known.signedDiv a b).toNat = EVM.sdiv a.toNat b.toNat := by
  unfold Known.signedDiv EVM.sdiv
  by_cases h : b.toNat = 0
  · rw [if_pos ((toInt_zero_iff b).mpr h), if_pos h]; rfl
  · rw [if_neg (fun h' => h ((toInt_zero_iff b).mp h')), if_neg h, ofInt_eq, toInt_eq, toInt_eq]

theorem k_smod (a b : Word) : (Known.signedRem a b).toNat = EVM.smod a.toNat b.toNat := by
  unfold Known.signedRem EVM.smod
  by_cases h : b.toNat = 0
  · rw [if_pos ((toInt_zero_iff b).mpr h), if_pos h]; rfl
  · rw [if_neg (fun h' => h ((toInt_zero_iff b).mp h')), if_neg h, ofInt_eq, toInt_eq, toInt_eq]

theorem ofBool_toNat (c : Bool) : (Word.ofBool c).toNat = EVM.ofBool c := by
  cases c <;> rfl

theorem k_lt (a b : Word) : (Known.lt a b).toNat = EVM.lt a.toNat b.toNat := ofBool_toNat _
theorem k_gt (a b : Word) : (Known.gt a b).toNat = EVM.gt a.toNat b.toNat := ofBool_toNat _
theorem k_slt (a b : Word) : (Known.signedLt a b).toNat = EVM.slt a.toNat b.toNat := by
  unfold Known.signedLt EVM.slt; rw [ofBool_toNat, toInt_eq, toInt_eq]
theorem k_sgt (a b : Word) : (Known.signedGt a b).toNat = EVM.sgt a.toNat b.toNat := by
  unfold Known.signedGt EVM.sgt; rw [ofBool_toNat, toInt_eq, toInt_eq]
theorem k_eq (a b : Word) : (Known.eq a b).toNat = EVM.eq a.toNat b.toNat := by
  unfold Known.eq EVM.eq; rw [ofBool_toNat]
  congr 1
  by_cases h : a = b
  · subst h; simp
  · have : a.toNat ≠ b.toNat := fun h' => h (BitVec.eq_of_toNat_eq h')
    simp [h, this]
theorem k_isZero (a : Word) : (Known.isZero a).toNat = EVM.iszero a.toNat := by
  unfold Known.isZero EVM.iszero; rw [ofBool_toNat]
  congr 1
  by_cases h : a = 0#256
  · subst h; simp
  · have : a.toNat ≠ 0 := fun h' => h (BitVec.eq_of_toNat_eq h')
    simp [h, this]
theorem k_and (a b : Word) : (Known.and a b).toNat = EVM.and a.toNat b.toNat := by
  simp [Known.and, EVM.and]
theorem k_or (a b : Word) : (Known.or a b).toNat = EVM.or a.toNat b.toNat := by
  simp [Known.or, EVM.or]
theorem k_xor (a b : Word) : (Known.xor a b).toNat = EVM.xor a.toNat b.toNat := by
  simp [Known.xor, EVM.xor]
theorem k_not (a : Word) : (Known.not a).toNat = EVM.not a.toNat := by
  rw [not_eq]
  have ha := a.isLt
  unfold Spec.not EVM.not EVM.W
  rw [BitVec.toNat_ofNat]
  apply Nat.mod_eq_of_lt
  omega
theorem k_shl (s v : Word) : (Known.shl s v).toNat = EVM.shl s.toNat v.toNat := by
  rw [shl_eq]
  unfold Spec.shl EVM.shl EVM.W
  split
  · rw [BitVec.toNat_ofNat]
  · rfl
theorem k_shr (s v : Word) : (Known.shr s v).toNat = EVM.shr s.toNat v.toNat := by
  rw [shr_eq]
  unfold Spec.shr EVM.shr
  split
  · rw [BitVec.toNat_ofNat]
    apply Nat.mod_eq_of_lt
    exact Nat.lt_of_le_of_lt (Nat.div_le_self _ _) v.isLt
  · rfl

theorem powMod_lt : ∀ (fuel acc base e : Nat), acc < EVM.W → EVM.powMod fuel acc base e < EVM.W
  | 0, _, _, _, h => by simpa [EVM.powMod] using h
  | fuel + 1, acc, base, e, h => by
    unfold EVM.powMod
    split
    · exact h
    · apply powMod_lt
      split
      · exact Nat.mod_lt _ (by decide)
      · exact h

theorem mul_pow_mod (a b c W : Nat) : a * (b % W) ^ c % W = a * b ^ c % W := by
  rw [Nat.mul_mod, ← Nat.pow_mod, ← Nat.mul_mod]

theorem pow_odd (acc base e : Nat) (h : e % 2 = 1) :
    acc * base * (base * base) ^ (e / 2) = acc * base ^ e := by
  have he : e = 2 * (e / 2) + 1 := by omega
  conv => rhs; rw [he]
  rw [Nat.pow_succ, Nat.pow_mul, Nat.pow_two, Nat.mul_assoc, Nat.mul_comm base]

theorem pow_even (base e : Nat) (h : ¬ e % 2 = 1) : (base * base) ^ (e / 2) = base ^ e := by
  have he : e = 2 * (e / 2) := by omega
  conv => rhs; rw [he]
  rw [Nat.pow_mul, Nat.pow_two]

theorem powMod_eq : ∀ (fuel acc base e : Nat), e < 2 ^ fuel →
    EVM.powMod fuel acc base e % EVM.W = (acc * base ^ e) % EVM.W
  | 0, acc, base, e, h => by
    have : e = 0 := by simpa using h
    subst this; simp [EVM.powMod]
  | fuel + 1, acc, base, e, h => by
    unfold EVM.powMod
    split
    · rename_i he; subst he; simp
    · have he2 : e / 2 < 2 ^ fuel := by
        rw [Nat.pow_succ] at h; omega
      rw [powMod_eq fuel _ _ _ he2, mul_pow_mod]
      split
      · rename_i hodd
        rw [Nat.mul_mod, Nat.mod_mod, ← Nat.mul_mod, pow_odd acc base e hodd]
      · rename_i heven
        rw [pow_even base e heven]

theorem k_exp (a b : Word) : (Known.exp a b).toNat = EVM.exp a.toNat b.toNat := by
  rw [exp_eq]
  unfold Spec.exp EVM.exp
  rw [BitVec.toNat_ofNat]
  have h1 := powMod_lt 256 1 a.toNat b.toNat (by decide)
  have h2 := powMod_eq 256 1 a.toNat b.toNat b.isLt
  rw [Nat.mod_eq_of_lt h1, Nat.one_mul] at h2
  rw [h2]; rfl

theorem k_sar (s v : Word) : (Known.sar s v).toNat = EVM.sar s.toNat v.toNat := by
  rw [sar_eq]
  have hv := v.isLt
  have hti := toInt_eq v
  have hcond := BitVec.toInt_eq_toNat_cond v
  unfold Spec.sar EVM.sar
  by_cases hpos : v.toNat < 2 ^ 255
  · rw [if_pos (by omega)] at hcond
    rw [if_pos hpos]
    by_cases hs : s.toNat < 256
    · rw [if_pos hs, if_pos hs, ofInt_eq, hcond]
      unfold EVM.ofInt EVM.W
      have : ((v.toNat : Int) / (2 : Int) ^ s.toNat) = ((v.toNat / 2 ^ s.toNat : Nat) : Int) := by
        norm_cast
      rw [this]
      have hle : v.toNat / 2 ^ s.toNat ≤ v.toNat := Nat.div_le_self _ _
      generalize v.toNat / 2 ^ s.toNat = q at hle ⊢
      omega
    · rw [if_neg hs, if_neg hs, if_neg (by omega)]
      rfl
  · rw [if_neg (by omega)] at hcond
    rw [if_neg hpos]
    by_cases hs : s.toNat < 256
    · rw [if_pos hs, if_pos hs, ofInt_eq, hti]
      congr 1
      rw [Int.fdiv_eq_ediv_of_nonneg _ (by exact Int.natCast_nonneg _)]
      congr 1
    · rw [if_neg hs, if_neg hs, if_pos (by omega)]
      rfl

/-! ### constant folding agrees with the reference evaluation on well-formed trees -/

mutual
/-- every literal of the tree is a 256-bit word (`asWord` truncates a literal, `evalSV` does not) -/
def LitOK : SV → Prop
  | .node k attrs ks _ => (k = .knownData → ∀ w r, attrs = w :: r → w < 2 ^ 256) ∧ LitOKs ks
def LitOKs : List SV → Prop
  | [] => True
  | k :: ks => LitOK k ∧ LitOKs ks
end

theorem foldList_eq_map : ∀ ks : List SV, foldList ks = ks.map fold
  | [] => by simp [foldList]
  | k :: ks => by simp [foldList, foldList_eq_map ks]

theorem asWord_rebuild {k : Kind} {a : List Nat} {ks : List SV} {w : Word}
    (h : asWord (rebuild k a ks) = some w) : k = .knownData ∧ ∃ w0 r, a = w0 :: r ∧ w = BitVec.ofNat 256 w0 := by
  unfold rebuild asWord at h
  split at h
  · rename_i k' w0 r ks' sz heq
    cases heq
    cases h
    exact ⟨rfl, w0, r, rfl, rfl⟩
  · cases h

theorem knownBin_sound {k : Kind} {f : Word → Word → Word} (hf : knownBin k = some f) (x y : Word)
    (a : List Nat) (p q : SV) (sz : Nat) (hp : evalSV p = some x.toNat) (hq : evalSV q = some y.toNat) :
    evalSV (.node k a [p, q] sz) = some (f x y).toNat := by
  have hl : evalList [p, q] = some [x.toNat, y.toNat] := by simp [EvalC.evalList, hp, hq]
  unfold knownBin at hf
  split at hf <;> cases hf <;> unfold evalSV <;> rw [hl]
  all_goals simp only [k_add, k_mul, k_sub, k_div, k_sdiv, k_rem, k_smod, k_exp, k_lt, k_gt, k_slt,
    k_sgt, k_eq, k_and, k_or, k_xor, k_shl, k_shr, k_sar]

theorem knownUn_sound {k : Kind} {f : Word → Word} (hf : knownUn k = some f) (x : Word)
    (a : List Nat) (p : SV) (sz : Nat) (hp : evalSV p = some x.toNat) :
    evalSV (.node k a [p] sz) = some (f x).toNat := by
  have hl : evalList [p] = some [x.toNat] := by simp [EvalC.evalList, hp]
  unfold knownUn at hf
  split at hf <;> cases hf <;> unfold evalSV <;> rw [hl]
  all_goals simp only [k_isZero, k_not]

theorem knownBin_not_known' {k : Kind} {f : Word → Word → Word} (hf : knownBin k = some f) :
    k ≠ .knownData := ne_known_of_knownBin hf

theorem knownUn_not_known' {k : Kind} {f : Word → Word} (hf : knownUn k = some f) :
    k ≠ .knownData := ne_known_of_knownUn hf

mutual
theorem fold_agree : ∀ v : SV, LitOK v → ∀ w, asWord (fold v) = some w → evalSV v = some w.toNat
  | .node k attrs ks sz, hok, w, hw => by
    unfold LitOK at hok
    have hks := foldList_agree ks hok.2
    unfold fold at hw
    rw [foldList_eq_map] at hw
    rcases foldNode_cases k attrs (ks.map fold) with
      ⟨f, a, b, x, y, hf, hab, hx, hy, he⟩ | ⟨g, a, x, hg, ha, hx, he⟩ | he
    · rw [he, asWord_mkKnown] at hw
      cases hw
      rcases ks with _ | ⟨p, _ | ⟨q, _ | _⟩⟩ <;> simp only [List.map_cons, List.map_nil,
        List.cons.injEq, and_true, reduceCtorEq, and_false] at hab
      obtain ⟨rfl, rfl⟩ := hab
      exact knownBin_sound hf x y attrs p q sz (hks 0 p rfl x hx) (hks 1 q rfl y hy)
    · rw [he, asWord_mkKnown] at hw
      cases hw
      rcases ks with _ | ⟨p, _ | _⟩ <;> simp only [List.map_cons, List.map_nil,
        List.cons.injEq, and_true, reduceCtorEq, and_false] at ha
      subst ha
      exact knownUn_sound hg x attrs p sz (hks 0 p rfl x hx)
    · -- the node is rebuilt as it is: to be a constant it must be a literal
      rw [he] at hw
      obtain ⟨rfl, w0, r, rfl, rfl⟩ := asWord_rebuild hw
      rw [EvmSim.evalSV_known, BitVec.toNat_ofNat, Nat.mod_eq_of_lt (hok.1 rfl w0 r rfl)]
theorem foldList_agree : ∀ vs : List SV, LitOKs vs → ∀ (i : Nat) (v : SV), vs[i]? = some v →
    ∀ w, asWord (fold v) = some w → evalSV v = some w.toNat
  | [], _, i, v, h => by simp at h
  | x :: xs, hok, 0, v, h => by
    simp only [List.getElem?_cons_zero, Option.some.injEq] at h
    subst h
    exact fold_agree x (by unfold LitOKs at hok; exact hok.1)
  | x :: xs, hok, i + 1, v, h => by
    simp only [List.getElem?_cons_succ] at h
    exact foldList_agree xs (by unfold LitOKs at hok; exact hok.2) i v h
end

end Bridge

end SLE.PathSim
