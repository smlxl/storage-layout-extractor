import SLE.Model.TC
import SLE.Spec.TCSpec
import SLE.Lemmas.LiftInv
import SLE.Lemmas.TCSlots
import SLE.Lemmas.TCRules
/-!
C04 — standard storage idioms are recovered with the right slot, kind and packing:
masks, mappings of any depth, dynamic arrays and the inference rules that read the lifted
shapes.  All statements quantify over every slot / depth / mask.
-/
namespace SLE.Idioms
open SLE SLE.SV SLE.Lift SLE.TC SLE.TCSpec
open SLE.LiftShape (fuelRec mapE_id)

/-- `K w`: a constant leaf. -/
abbrev K (w : Nat) : SV := Lift.mkKnownNat w

/-! ### hereditary node predicates with consistent recorded sizes -/

mutual
/-- every node satisfies `ok` and records `size = child_size + 1` (what `rebuild`, `SV.mk`
and hence every machine-made node do) -/
def Her (ok : Kind → List Nat → List SV → Prop) : SV → Prop
  | .node k a ks s => ok k a ks ∧ s = childSize ks + 1 ∧ HerL ok ks
def HerL (ok : Kind → List Nat → List SV → Prop) : List SV → Prop
  | [] => True
  | x :: xs => Her ok x ∧ HerL ok xs
end

theorem HerL_iff {ok} : ∀ ks : List SV, HerL ok ks ↔ ∀ x ∈ ks, Her ok x
  | [] => by simp [HerL]
  | x :: xs => by simp [HerL, HerL_iff xs]

theorem Her_node {ok k a ks s} :
    Her ok (.node k a ks s) ↔ ok k a ks ∧ s = childSize ks + 1 ∧ ∀ x ∈ ks, Her ok x := by
  simp only [Her, HerL_iff]

theorem Her_rebuild {ok k a ks} :
    Her ok (rebuild k a ks) ↔ ok k a ks ∧ ∀ x ∈ ks, Her ok x := by
  simp only [rebuild, Her_node, true_and]

mutual
theorem Her_mono' {ok ok' : Kind → List Nat → List SV → Prop}
    (h : ∀ k a ks, ok k a ks → (∀ x ∈ ks, Her ok x) → ok' k a ks) :
    ∀ t, Her ok t → Her ok' t
  | .node k a ks s, ht => by
    simp only [Her] at ht ⊢
    exact ⟨h _ _ _ ht.1 ((HerL_iff ks).mp ht.2.2), ht.2.1, HerL_mono' h ks ht.2.2⟩
theorem HerL_mono' {ok ok' : Kind → List Nat → List SV → Prop}
    (h : ∀ k a ks, ok k a ks → (∀ x ∈ ks, Her ok x) → ok' k a ks) :
    ∀ l, HerL ok l → HerL ok' l
  | [], _ => by simp [HerL]
  | x :: xs, hl => by
    simp only [HerL] at hl ⊢
    exact ⟨Her_mono' h x hl.1, HerL_mono' h xs hl.2⟩
end

theorem Her_mono {ok ok' : Kind → List Nat → List SV → Prop} (h : ∀ k a ks, ok k a ks → ok' k a ks)
    (t : SV) (ht : Her ok t) : Her ok' t := Her_mono' (fun k a ks hk _ => h k a ks hk) t ht

theorem rebuild_self {k a ks s} (hs : s = childSize ks + 1) : rebuild k a ks = .node k a ks s := by
  subst hs; rfl

/-! ### inert trees -/

/-- the node kinds on which no lifting pass ever acts -/
def inertKind : Kind → Bool
  | .knownData | .sha3 | .and_ | .multiply | .rightShift
  | .sLoad | .storageWrite | .unwrittenStorageValue | .storageSlot | .concat
  | .mappingIndex | .dynamicArrayIndex | .subWord | .shifted | .packed => false
  | _ => true

/-- `Inert t`: all node kinds of `t` are inert and all recorded sizes are consistent.  Every pass
maps such a tree to itself. -/
def Inert (t : SV) : Prop := Her (fun k _ _ => inertKind k = true) t

def callerV : SV := .node .caller [] [] 1

example : Inert callerV := by simp [Inert, callerV, Her, HerL, inertKind, childSize]
example (i : Nat) : Inert (mkValue i) := by simp [Inert, mkValue, Her, HerL, inertKind, childSize]
example (i : Nat) : Inert (rebuild .add [] [mkValue i, rebuild .or_ [] [callerV, rebuild .divide [] [mkValue 1, callerV]]]) := by
  simp [Inert, callerV, mkValue, rebuild, Her, HerL, inertKind, childSize]

theorem Inert_node {k a ks s} :
    Inert (.node k a ks s) ↔ inertKind k = true ∧ s = childSize ks + 1 ∧ ∀ x ∈ ks, Inert x := Her_node

theorem Inert_her {ok : Kind → List Nat → List SV → Prop} (h : ∀ k a ks, inertKind k = true → ok k a ks)
    {t : SV} (ht : Inert t) : Her ok t := Her_mono (fun k a ks hk => h k a ks hk) t ht

/-! ### masks -/

theorem lowestSetBit_shift (x : Nat) (hx : x % 2 = 1) :
    ∀ (o fuel i : Nat), o < fuel → lowestSetBit fuel (x * 2 ^ o) i = some (i + o)
  | 0, fuel + 1, i, _ => by simp [lowestSetBit, hx]
  | o + 1, fuel + 1, i, h => by
    have h2 : x * 2 ^ (o + 1) = 2 * (x * 2 ^ o) := by rw [Nat.pow_succ]; ac_rfl
    have h0 : x * 2 ^ (o + 1) % 2 = 0 := by rw [h2]; omega
    have hd : x * 2 ^ (o + 1) / 2 = x * 2 ^ o := by rw [h2]; omega
    simp only [lowestSetBit, h0, hd]
    rw [if_neg (by omega), lowestSetBit_shift x hx o fuel (i + 1) (by omega)]
    congr 1; omega

theorem runLength_ones : ∀ (s fuel n : Nat), s ≤ fuel → runLength fuel (2 ^ s - 1) n = n + s
  | 0, 0, n, _ => by simp [runLength]
  | 0, fuel + 1, n, _ => by simp [runLength]
  | s + 1, fuel + 1, n, h => by
    have hp : 0 < 2 ^ s := Nat.two_pow_pos _
    have h1 : (2 ^ (s + 1) - 1) % 2 = 1 := by rw [Nat.pow_succ]; omega
    have hd : (2 ^ (s + 1) - 1) / 2 = 2 ^ s - 1 := by rw [Nat.pow_succ]; omega
    simp only [runLength, h1, hd, if_true]
    rw [runLength_ones s fuel (n + 1) (by omega)]; omega

/-- the mask with `s` ones starting at bit `o` -/
def mask (o s : Nat) : Nat := (2 ^ s - 1) * 2 ^ o

theorem fold_K (w : Nat) : fold (K w) = K w := by
  simp [K, mkKnownNat, fold, foldList, foldNode, knownBin, knownUn, rebuild, childSize]

theorem mask_region (o s : Nat) (hs : 1 ≤ s) (hos : o + s ≤ 256) :
    getRegion (K (mask o s)) = some (o, s) := by
  have hp : 0 < 2 ^ (s - 1) := Nat.two_pow_pos _
  have hodd : (2 ^ s - 1) % 2 = 1 := by
    obtain ⟨s', rfl⟩ : ∃ s', s = s' + 1 := ⟨s - 1, by omega⟩
    simp only [Nat.add_sub_cancel] at hp
    rw [Nat.pow_succ]; omega
  have hl := lowestSetBit_shift (2 ^ s - 1) hodd o 256 0 (by omega)
  have hd : mask o s / 2 ^ o = 2 ^ s - 1 := Nat.mul_div_cancel _ (Nat.two_pow_pos _)
  simp only [getRegion, fold_K, mask] at *
  simp only [K, mkKnownNat, knownOf, hl, Nat.zero_add, hd]
  rw [runLength_ones s (256 - o) 0 (by omega)]; simp

/-! ### the passes are the identity where they have nothing to act on -/

theorem asWord_none {t : SV} (h : t.kind ≠ .knownData) : t.asWord = none := by
  unfold asWord; split
  · exact absurd rfl h
  · rfl

theorem knownOf_none {t : SV} (h : t.kind ≠ .knownData) : knownOf t = none := by
  unfold knownOf; split
  · exact absurd rfl h
  · rfl

theorem foldNode_id {k a ks} (h : ∀ x ∈ ks, x.asWord = none) : foldNode k a ks = rebuild k a ks := by
  unfold foldNode
  split
  · rename_i f x y hk
    simp [h x (by simp)]
  · split
    · rename_i f x hk _
      simp [h x (by simp)]
    · rfl

abbrev NoKnown : SV → Prop := Her (fun k _ _ => k ≠ .knownData)

theorem Her_kind {ok : Kind → List Nat → List SV → Prop} {P : Kind → Prop} (h : ∀ k a ks, ok k a ks → P k)
    {t : SV} (ht : Her ok t) : P t.kind := by
  obtain ⟨k, a, ks, s⟩ := t
  exact h _ _ _ (Her_node.mp ht).1

mutual
theorem fold_noKnown : ∀ t, NoKnown t → fold t = t
  | .node k a ks s, ht => by
    simp only [Her] at ht
    have hk : ∀ x ∈ ks, x.asWord = none := fun x hx =>
      asWord_none (Her_kind (P := fun k => k ≠ .knownData) (fun _ _ _ h => h) ((HerL_iff ks).mp ht.2.2 x hx))
    rw [fold, foldList_noKnown ks ht.2.2, foldNode_id hk]
    exact rebuild_self ht.2.1
theorem foldList_noKnown : ∀ l, HerL (fun k _ _ => k ≠ .knownData) l → foldList l = l
  | [], _ => rfl
  | x :: xs, hl => by
    simp only [HerL] at hl
    rw [foldList, fold_noKnown x hl.1, foldList_noKnown xs hl.2]
end

theorem inert_ne {k k0 : Kind} (hk : inertKind k = true) (h0 : inertKind k0 = false := by rfl) :
    k ≠ k0 :=
  fun e => by rw [e, h0] at hk; cases hk

theorem Inert_ne {t : SV} (ht : Inert t) (k0 : Kind) (h0 : inertKind k0 = false := by rfl) :
    Her (fun k _ _ => k ≠ k0) t :=
  Inert_her (fun _ _ _ hk => inert_ne hk h0) ht

theorem Inert_kind {t : SV} (ht : Inert t) : inertKind t.kind = true :=
  Her_kind (P := fun k => inertKind k = true) (fun _ _ _ h => h) ht

theorem fold_inert {t : SV} (ht : Inert t) : fold t = t := fold_noKnown t (Inert_ne ht .knownData)

theorem getRegion_inert {t : SV} (ht : Inert t) : getRegion t = none := by
  have : (fold t).kind ≠ .knownData := by rw [fold_inert ht]; exact inert_ne (Inert_kind ht)
  simp [getRegion, knownOf_none this]

/-- pass 1: no constant is a recognised slot hash -/
def ok1 (h : HashCtx) : Kind → List Nat → List SV → Prop :=
  fun k a _ => k = .knownData → ∀ w r, a = w :: r → h.table w = none

mutual
theorem slotHashes_id (h : HashCtx) : ∀ t, Her (ok1 h) t → transform (slotHashesT h) t = t
  | .node k a ks s, ht => by
    simp only [Her] at ht
    have hn : slotHashesT h k a ks = none := by
      unfold slotHashesT; split
      · rename_i w r; rw [ht.1 rfl w r rfl]
      · rfl
    simp only [transform, hn, slotHashesList_id h ks ht.2.2]
    exact rebuild_self ht.2.1
theorem slotHashesList_id (h : HashCtx) : ∀ l, HerL (ok1 h) l → transformList (slotHashesT h) l = l
  | [], _ => rfl
  | x :: xs, hl => by
    simp only [HerL] at hl
    rw [transformList, slotHashes_id h x hl.1, slotHashesList_id h xs hl.2]
end

/-- A pass is the identity on a consistently sized tree at none of whose nodes a recognised arm
fires (`hgen`: such a node is rebuilt over the images of its kids). -/
theorem pass_id {ok : Kind → List Nat → List SV → Prop} {P : Nat → SV → SV} (h0 : ∀ v, P 0 v = v)
    (hgen : ∀ fuel k a ks s, ok k a ks → (∀ x ∈ ks, Her ok x) →
      P (fuel + 1) (.node k a ks s) = rebuild k a (ks.map (P fuel))) :
    ∀ fuel t, Her ok t → P fuel t = t := by
  intro fuel t
  induction fuel, t using fuelRec with
  | zero v => intro _; exact h0 v
  | succ fuel k a ks s ih =>
    intro ht
    rw [Her_node] at ht
    rw [hgen fuel k a ks s ht.1 ht.2.2,
      (List.map_congr_left fun x hx => ih x (ht.2.2 x hx)).trans (List.map_id ks)]
    exact rebuild_self ht.2.1

theorem passE_id {ok : Kind → List Nat → List SV → Prop} {P : Nat → SV → Except LFault SV}
    (h0 : ∀ v, P 0 v = .ok v)
    (hgen : ∀ fuel k a ks s, ok k a ks → (∀ x ∈ ks, Her ok x) →
      P (fuel + 1) (.node k a ks s) =
        match mapE (P fuel) ks with
        | .ok ks' => .ok (rebuild k a ks')
        | .error e => .error e) :
    ∀ fuel t, Her ok t → P fuel t = .ok t := by
  intro fuel t
  induction fuel, t using fuelRec with
  | zero v => intro _; exact h0 v
  | succ fuel k a ks s ih =>
    intro ht
    rw [Her_node] at ht
    rw [hgen fuel k a ks s ht.1 ht.2.2, mapE_id fun x hx => ih x (ht.2.2 x hx)]
    exact congrArg Except.ok (rebuild_self ht.2.1)

theorem proxySlots_id (h : HashCtx) : ∀ fuel t, Her (fun k _ _ => k ≠ .sLoad ∧ k ≠ .storageWrite) t →
    proxySlots h fuel t = t :=
  pass_id (fun _ => rfl) fun fuel k a ks s hk _ => by
    unfold proxySlots
    split
    · exact absurd rfl hk.1
    · exact absurd rfl hk.2
    · rfl

/-- pass 3: no `sha3` node hashes a two-element `concat` -/
def ok3 : Kind → List Nat → List SV → Prop :=
  fun k _ ks => k = .sha3 → ∀ c ∈ ks, c.kind = .concat → c.kids.length ≠ 2

theorem insertMappingAccesses_id' : ∀ fuel t, Her ok3 t → insertMappingAccesses fuel t = t :=
  pass_id (fun _ => rfl) fun fuel k a ks s hk _ => by
    unfold insertMappingAccesses
    split
    · exact absurd rfl (hk rfl _ (List.mem_singleton.mpr rfl) rfl)
    · rfl

theorem insertMappingAccesses_id (fuel : Nat) (t : SV) (ht : Her (fun k _ _ => k ≠ .sha3) t) :
    insertMappingAccesses fuel t = t :=
  insertMappingAccesses_id' fuel t (Her_mono (fun _ _ _ hk hh => absurd hh hk) t ht)

theorem insertSubWords_id : ∀ fuel t, Her (fun k _ _ => k ≠ .and_) t →
    insertSubWords fuel t = .ok t :=
  passE_id (fun _ => rfl) fun fuel k a ks s hk _ => by
    simp only [insertSubWords]
    split
    · exact absurd rfl hk
    · rfl

theorem insertMulShifts_id : ∀ fuel t, Her (fun k _ _ => k ≠ .multiply) t →
    insertMulShifts fuel t = t :=
  pass_id (fun _ => rfl) fun fuel k a ks s hk _ => by
    simp only [insertMulShifts]
    split
    · exact absurd rfl hk
    · rfl

theorem liftPacked_id : ∀ fuel t, Her (fun k _ _ => k ≠ .storageWrite) t →
    liftPacked fuel t = .ok t :=
  passE_id (fun _ => rfl) fun fuel k a ks s hk _ => by
    simp only [liftPacked]
    split
    · exact absurd rfl hk
    · rfl

theorem liftDynArray_id : ∀ fuel t, Her (fun k _ _ => k ≠ .sha3) t →
    liftDynArray fuel t = t :=
  pass_id (fun _ => rfl) fun fuel k a ks s _hk hks => by
    simp only [liftDynArray]
    split
    · rename_i left right
      have hl : left.kind ≠ .sha3 := Her_kind (P := fun k => k ≠ .sha3) (fun _ _ _ h => h) (hks left (by simp))
      have hr : right.kind ≠ .sha3 := Her_kind (P := fun k => k ≠ .sha3) (fun _ _ _ h => h) (hks right (by simp))
      split
      · rfl
      · rename_i data hd
        exfalso
        split at hd
        · exact hl rfl
        · split at hd
          · exact hr rfl
          · cases hd
    · rfl

theorem insertStorageSlots_id : ∀ fuel t,
    Her (fun k _ _ => k ≠ .mappingIndex ∧ k ≠ .storageWrite ∧ k ≠ .dynamicArrayIndex ∧ k ≠ .sLoad) t →
    insertStorageSlots fuel t = t :=
  pass_id (fun _ => rfl) fun fuel k a ks s hk _ => by
    simp only [insertStorageSlots]
    split
    · exact absurd rfl hk.1
    · exact absurd rfl hk.2.1
    · exact absurd rfl hk.2.2.1
    · exact absurd rfl hk.2.2.2
    · rfl

/-- pass 9: no `add` node has a `mappingIndex` kid -/
def ok9 : Kind → List Nat → List SV → Prop :=
  fun k _ ks => k = .add → ∀ c ∈ ks, c.kind ≠ .mappingIndex

theorem insertMappingOffset_id : ∀ fuel t, Her ok9 t → insertMappingOffset fuel t = t :=
  pass_id (fun _ => rfl) fun fuel k a ks s hk _hks => by
    simp only [insertMappingOffset]
    split
    · rename_i left right
      have hl : left.kind ≠ .mappingIndex := hk rfl left (by simp)
      have hr : right.kind ≠ .mappingIndex := hk rfl right (by simp)
      split
      · rename_i key slot off hp
        exfalso
        split at hp
        · exact hl rfl
        · exact hr rfl
        · cases hp
      · rfl
    · rfl


theorem knownOf_inert {t : SV} (ht : Inert t) : knownOf t = none :=
  knownOf_none (inert_ne (Inert_kind ht))

theorem getShift_inert {v : SV} (hv : Inert v) : getShift v = (v, 0) := by
  obtain ⟨k, a, ks, s⟩ := v
  have hv' := Inert_node.mp hv
  unfold getShift
  split
  · rename_i heq; cases heq; simp [inertKind] at hv'
  · rename_i a' dividend divisor s' heq
    cases heq
    have hd : Inert divisor := hv'.2.2 divisor (by simp)
    split
    · rename_i b base ex sb
      have hb : Inert base := (Inert_node.mp hd).2.2 base (by simp)
      simp [knownOf_inert hb]
    · rename_i b shift base sb
      have hb : Inert base := (Inert_node.mp hd).2.2 base (by simp)
      simp [knownOf_inert hb]
    · exact absurd rfl (inert_ne (Inert_kind hd) : Kind.knownData ≠ .knownData)
    · rfl
  · rfl

theorem Inert_and {t : SV} (ht : Inert t) : Her (fun k _ _ => k ≠ .and_) t := Inert_ne ht _

theorem and_mask_is_subword (o s : Nat) (hs : 1 ≤ s) (hos : o + s ≤ 256) (v : SV) (hv : Inert v)
    (fuel : Nat) (a : List Nat) (sz : Nat) :
    insertSubWords (fuel + 1) (.node .and_ a [v, K (mask o s)] sz) = .ok (rebuild .subWord [o, s] [v]) ∧
    insertSubWords (fuel + 1) (.node .and_ a [K (mask o s), v] sz) = .ok (rebuild .subWord [o, s] [v]) := by
  have hk : (v.kind == Kind.knownData) = false := beq_eq_false_iff_ne.2 (inert_ne (Inert_kind hv))
  have hsub : ∀ (io isz : Nat) (iv : SV) (s' : Nat), v ≠ .node .subWord [io, isz] [iv] s' :=
    fun io isz iv s' h => (inert_ne (Inert_kind hv) : v.kind ≠ .subWord) (congrArg SV.kind h)
  have hb : ¬ (usizeMax ≤ o ∨ 256 < o + s) := by simp [usizeMax]; omega
  constructor
  · simp only [insertSubWords, getRegion_inert hv, mask_region o s hs hos, hk, getShift_inert hv]
    rw [insertSubWords_id fuel v (Inert_and hv)]
    simp only [Nat.add_zero, ge_iff_le, gt_iff_lt, Bool.or_eq_true, decide_eq_true_eq]
    rw [if_neg hb]
    congr 3
  · simp only [insertSubWords, mask_region o s hs hos, hk, getShift_inert hv]
    rw [insertSubWords_id fuel v (Inert_and hv)]
    simp only [Nat.add_zero, ge_iff_le, gt_iff_lt, Bool.or_eq_true, decide_eq_true_eq]
    rw [if_neg hb]
    congr 3

/-! ### mappings of any depth -/

/-- `keccak(key ++ slot)` as the machine builds it -/
def sha3c (key slot : SV) : SV := rebuild .sha3 [] [rebuild .concat [] [key, slot]]

/-- the storage key of `base[k₁][k₂]…[kₙ]` for `ks = [k₁, …, kₙ]` (innermost key first, as solc does) -/
def mapKey : List SV → SV → SV
  | [], base => base
  | k :: ks, base => mapKey ks (sha3c k base)

def mIdx (slot key : SV) : SV := rebuild .mappingIndex [0] [slot, key]

/-- the same access as nested `mappingIndex` nodes -/
def mapIdx : List SV → SV → SV
  | [], base => base
  | k :: ks, base => mapIdx ks (mIdx base k)

def sSlot (x : SV) : SV := rebuild .storageSlot [] [x]

/-- … and with every slot position wrapped in `storageSlot` (after pass 8) -/
def mapIdxS : List SV → SV → SV
  | [], base => base
  | k :: ks, base => mapIdxS ks (mIdx (sSlot base) k)

/-- nesting depth of `mappingIndex` along the slot position, through `storageSlot` wrappers -/
def mapDepth : SV → Nat
  | .node .mappingIndex _ [slot, _] _ => mapDepth slot + 1
  | .node .storageSlot _ [x] _ => mapDepth x
  | _ => 0

theorem Her_mapKey {ok : Kind → List Nat → List SV → Prop} (h1 : ∀ ks, ok .sha3 [] ks) (h2 : ∀ ks, ok .concat [] ks) :
    ∀ (ks : List SV) (base : SV), (∀ k ∈ ks, Her ok k) → Her ok base → Her ok (mapKey ks base)
  | [], _, _, hb => hb
  | k :: ks, base, hks, hb => by
    refine Her_mapKey h1 h2 ks _ (fun x hx => hks x (List.mem_cons_of_mem _ hx)) ?_
    have hk := hks k (by simp)
    simp [sha3c, Her_rebuild, h1, h2, hk, hb]

theorem Her_mapIdx {ok : Kind → List Nat → List SV → Prop} (h1 : ∀ ks, ok .mappingIndex [0] ks) :
    ∀ (ks : List SV) (base : SV), (∀ k ∈ ks, Her ok k) → Her ok base → Her ok (mapIdx ks base)
  | [], _, _, hb => hb
  | k :: ks, base, hks, hb => by
    refine Her_mapIdx h1 ks _ (fun x hx => hks x (List.mem_cons_of_mem _ hx)) ?_
    have hk := hks k (by simp)
    simp [mIdx, Her_rebuild, h1, hk, hb]

theorem Her_mapIdxS {ok : Kind → List Nat → List SV → Prop} (h1 : ∀ ks, ok .mappingIndex [0] ks)
    (h2 : ∀ ks, ok .storageSlot [] ks) :
    ∀ (ks : List SV) (base : SV), (∀ k ∈ ks, Her ok k) → Her ok base → Her ok (mapIdxS ks base)
  | [], _, _, hb => hb
  | k :: ks, base, hks, hb => by
    refine Her_mapIdxS h1 h2 ks _ (fun x hx => hks x (List.mem_cons_of_mem _ hx)) ?_
    have hk := hks k (by simp)
    simp [mIdx, sSlot, Her_rebuild, h1, h2, hk, hb]

theorem Her_K {ok : Kind → List Nat → List SV → Prop} {w : Nat} (h : ok .knownData [w] []) : Her ok (K w) := by
  simp [K, mkKnownNat, Her_node, h, childSize]

theorem Inert_sha3 {t : SV} (ht : Inert t) : Her (fun k _ _ => k ≠ .sha3) t := Inert_ne ht _

theorem ima_K (f w : Nat) : insertMappingAccesses f (K w) = K w := by
  cases f <;> simp [K, mkKnownNat, insertMappingAccesses, rebuild, childSize]

theorem ima_mapKey : ∀ (ks : List SV) (base base' : SV), (∀ k ∈ ks, Inert k) →
    (∀ f, nodeCount base ≤ f → insertMappingAccesses f base = base') →
    ∀ f, nodeCount (mapKey ks base) ≤ f → insertMappingAccesses f (mapKey ks base) = mapIdx ks base'
  | [], _, _, _, hb, f, hf => hb f hf
  | k :: ks, base, base', hks, hb, f, hf => by
    refine ima_mapKey ks (sha3c k base) (mIdx base' k) (fun x hx => hks x (List.mem_cons_of_mem _ hx)) ?_ f hf
    intro f hf
    have hn : nodeCount (sha3c k base) = nodeCount k + nodeCount base + 2 := by
      simp [sha3c, rebuild, nodeCount, nodeCountList]
    obtain ⟨f', rfl⟩ : ∃ f', f = f' + 1 := ⟨f - 1, by omega⟩
    simp only [sha3c, rebuild, insertMappingAccesses, mIdx]
    rw [hb f' (by omega), insertMappingAccesses_id f' k (Inert_sha3 (hks k (by simp)))]

theorem mapping_key_lifted (ks : List SV) (w : Nat) (hks : ∀ k ∈ ks, Inert k) (fuel : Nat)
    (hf : nodeCount (mapKey ks (K w)) ≤ fuel) :
    insertMappingAccesses fuel (mapKey ks (K w)) = mapIdx ks (K w) :=
  ima_mapKey ks (K w) (K w) hks (fun f _ => ima_K f w) fuel hf

/-! ### the pipeline on a top-level storage access -/

open SLE.LiftInv (cnt stage3 stage5 stage7 stage8 stage9 liftAll_eq)

/-- nothing for passes 1 and 2 to act on -/
def okPre (h : HashCtx) : Kind → List Nat → List SV → Prop :=
  fun k a ks => ok1 h k a ks ∧ k ≠ .sLoad ∧ k ≠ .storageWrite

/-- nothing for passes 4 and 5 to act on -/
def okMid : Kind → List Nat → List SV → Prop := fun k _ _ => k ≠ .and_ ∧ k ≠ .multiply

theorem stage3_access (h : HashCtx) {k : Kind} (hk : k = .sLoad ∨ k = .storageWrite) (a : List Nat)
    (key val key3 val3 : SV) (hkey : Her (okPre h) key) (hval : Her (okPre h) val)
    (hu : unpickProxySlots h key = none)
    (hk3 : ∀ f, nodeCount key ≤ f → insertMappingAccesses f key = key3)
    (hv3 : ∀ f, nodeCount val ≤ f → insertMappingAccesses f val = val3) :
    stage3 h (rebuild k a [key, val]) = rebuild k a [key3, val3] := by
  have h1k := slotHashes_id h key (Her_mono (fun _ _ _ hh => hh.1) key hkey)
  have h1v := slotHashes_id h val (Her_mono (fun _ _ _ hh => hh.1) val hval)
  have h2k : ∀ f, proxySlots h f key = key := fun f => proxySlots_id h f key (Her_mono (fun _ _ _ hh => hh.2) key hkey)
  have h2v : ∀ f, proxySlots h f val = val := fun f => proxySlots_id h f val (Her_mono (fun _ _ _ hh => hh.2) val hval)
  have hs1 : transform (slotHashesT h) (rebuild k a [key, val]) = rebuild k a [key, val] := by
    rcases hk with rfl | rfl <;> simp [rebuild, transform, transformList, slotHashesT, h1k, h1v]
  have hs2 : ∀ n, proxySlots h (n + 1) (rebuild k a [key, val]) = rebuild k a [key, val] := by
    intro n
    rcases hk with rfl | rfl <;> simp [rebuild, proxySlots, hu, h2k, h2v]
  unfold stage3
  simp only [hs1, cnt, hs2]
  rcases hk with rfl | rfl <;>
    simp only [rebuild, guarded, guardStorage, hk3 (nodeCount key + 1) (by omega), hv3 (nodeCount val + 1) (by omega)]

theorem stage9_access {k : Kind} (hk : k = .sLoad ∨ k = .storageWrite) (a : List Nat)
    (key val k7 v7 k8 v8 : SV)
    (h7k : ∀ f, nodeCount key ≤ f → liftDynArray f key = k7)
    (h7v : ∀ f, nodeCount val ≤ f → liftDynArray f val = v7)
    (hns : k7.kind ≠ .storageSlot)
    (h8k : ∀ f, nodeCount k7 ≤ f → insertStorageSlots f k7 = k8)
    (h8v : ∀ f, nodeCount v7 ≤ f → insertStorageSlots f v7 = v8)
    (h9k : Her ok9 k8) (h9v : Her ok9 v8) :
    stage9 (rebuild k a [key, val]) = rebuild k a [sSlot k8, v8] := by
  have hs7 : stage7 (rebuild k a [key, val]) = rebuild k a [k7, v7] := by
    unfold stage7
    rcases hk with rfl | rfl <;>
      simp only [rebuild, cnt, guarded, guardStorage, h7k (2 * (nodeCount key + 1)) (by omega),
        h7v (2 * (nodeCount val + 1)) (by omega)]
  have hns' : (k7.kind == Kind.storageSlot) = false := by simpa using hns
  have hn1 : nodeCount k7 ≤ nodeCountList [k7, v7] := by simp [nodeCountList]
  have hn2 : nodeCount v7 ≤ nodeCountList [k7, v7] := by simp [nodeCountList]
  have hs8 : stage8 (rebuild k a [key, val]) = rebuild k a [sSlot k8, v8] := by
    unfold stage8
    rw [hs7]
    rcases hk with rfl | rfl <;>
      simp [rebuild, cnt, nodeCount, insertStorageSlots, hns', h8k (nodeCountList [k7, v7] + 1) (by omega), h8v (nodeCountList [k7, v7] + 1) (by omega), sSlot]
  unfold stage9
  rw [hs8]
  apply insertMappingOffset_id
  rw [Her_rebuild]
  refine ⟨?_, ?_⟩
  · intro h; rcases hk with rfl | rfl <;> cases h
  · intro x hx
    simp only [List.mem_cons, List.mem_nil_iff, or_false] at hx
    rcases hx with rfl | rfl
    · simp only [sSlot, Her_rebuild]
      exact ⟨(fun h => by cases h), by simpa using h9k⟩
    · exact h9v

theorem liftAll_access (h : HashCtx) {k : Kind} (hk : k = .sLoad ∨ k = .storageWrite) (a : List Nat)
    (key val key3 val3 : SV) (hkey : Her (okPre h) key) (hval : Her (okPre h) val)
    (hu : unpickProxySlots h key = none)
    (hk3 : ∀ f, nodeCount key ≤ f → insertMappingAccesses f key = key3)
    (hv3 : ∀ f, nodeCount val ≤ f → insertMappingAccesses f val = val3)
    (hmk : Her okMid key3) (hmv : Her okMid val3)
    (h6 : ∀ f, liftPacked (f + 1) (rebuild k a [key3, val3]) = .ok (rebuild k a [key3, val3])) :
    liftAll h (rebuild k a [key, val]) = .ok (stage9 (rebuild k a [key3, val3])) := by
  have hm : Her okMid (rebuild k a [key3, val3]) := by
    rw [Her_rebuild]
    refine ⟨by rcases hk with rfl | rfl <;> simp [okMid], ?_⟩
    intro x hx
    simp only [List.mem_cons, List.mem_nil_iff, or_false] at hx
    rcases hx with rfl | rfl <;> assumption
  rw [liftAll_eq, stage3_access h hk a key val key3 val3 hkey hval hu hk3 hv3,
    insertSubWords_id _ _ (Her_mono (fun _ _ _ hh => hh.1) _ hm)]
  simp only [stage5, insertMulShifts_id _ _ (Her_mono (fun _ _ _ hh => hh.2) _ hm), cnt, h6]

/-! ### mappings through the whole pipeline -/

theorem Inert_okPre (h : HashCtx) {t : SV} (ht : Inert t) : Her (okPre h) t :=
  Inert_her (fun _ _ _ hk => ⟨fun hh => absurd hh (inert_ne hk), inert_ne hk, inert_ne hk⟩) ht

theorem Inert_okMid {t : SV} (ht : Inert t) : Her okMid t :=
  Inert_her (fun _ _ _ hk => ⟨inert_ne hk, inert_ne hk⟩) ht

theorem Inert_write {t : SV} (ht : Inert t) : Her (fun k _ _ => k ≠ .storageWrite) t := Inert_ne ht _

theorem Inert_slots {t : SV} (ht : Inert t) :
    Her (fun k _ _ => k ≠ .mappingIndex ∧ k ≠ .storageWrite ∧ k ≠ .dynamicArrayIndex ∧ k ≠ .sLoad) t :=
  Inert_her (fun _ _ _ hk => ⟨inert_ne hk, inert_ne hk, inert_ne hk, inert_ne hk⟩) ht

theorem Inert_ok9 {t : SV} (ht : Inert t) : Her ok9 t :=
  Her_mono' (fun _ _ _ _ hks _ c hc => inert_ne (Inert_kind (hks c hc))) t ht

theorem okPre_ne (h : HashCtx) {k : Kind} {a : List Nat} {ks : List SV} (h1 : k ≠ .knownData) (h2 : k ≠ .sLoad)
    (h3 : k ≠ .storageWrite) : okPre h k a ks := ⟨fun hh => absurd hh h1, h2, h3⟩

theorem Her_K_okPre (h : HashCtx) (w : Nat) (hw : h.table w = none) : Her (okPre h) (K w) :=
  Her_K ⟨(fun _ w' r hh => by cases hh; exact hw), by decide, by decide⟩

def usv (x : SV) : SV := rebuild .unwrittenStorageValue [] [x]

theorem mapKey_snoc : ∀ (ks : List SV) (k base : SV), mapKey (ks ++ [k]) base = sha3c k (mapKey ks base)
  | [], _, _ => rfl
  | x :: xs, k, base => by simp only [List.cons_append, mapKey, mapKey_snoc xs k]

theorem mapIdxS_snoc : ∀ (ks : List SV) (k base : SV), mapIdxS (ks ++ [k]) base = mIdx (sSlot (mapIdxS ks base)) k
  | [], _, _ => rfl
  | x :: xs, k, base => by simp only [List.cons_append, mapIdxS, mapIdxS_snoc xs k]

theorem unpick_sha3c (h : HashCtx) {k : SV} (hk : Inert k) (b : SV) : unpickProxySlots h (sha3c k b) = none := by
  have h1 : knownOf (fold k) = none := by rw [fold_inert hk]; exact knownOf_inert hk
  cases hb : knownOf (fold b) <;>
    simp [sha3c, rebuild, unpickProxySlots, unpickSha3Data, h1, hb]

theorem unpick_K (h : HashCtx) (w : Nat) : unpickProxySlots h (K w) = none :=
  TCSlots.unpick_lit h ⟨[], [], 1, rfl⟩

theorem snoc_cases {α : Type} (l : List α) : l = [] ∨ ∃ l' x, l = l' ++ [x] := by
  rcases List.eq_nil_or_concat l with h | ⟨l', x, h⟩
  · exact Or.inl h
  · exact Or.inr ⟨l', x, by simpa using h⟩

theorem unpick_mapKey (h : HashCtx) (ks : List SV) (hks : ∀ k ∈ ks, Inert k) (w : Nat) :
    unpickProxySlots h (mapKey ks (K w)) = none := by
  rcases snoc_cases ks with rfl | ⟨ks', k, rfl⟩
  · exact unpick_K h w
  · rw [mapKey_snoc]; exact unpick_sha3c h (hks k (by simp)) _

theorem iss_K (f w : Nat) : insertStorageSlots f (K w) = K w := by
  cases f <;> simp [K, mkKnownNat, insertStorageSlots, rebuild, childSize]

theorem lda_K (f w : Nat) : liftDynArray f (K w) = K w := by
  cases f <;> simp [K, mkKnownNat, liftDynArray, rebuild, childSize]

theorem iss_mapIdx : ∀ (ks : List SV) (base base' : SV), (∀ k ∈ ks, Inert k) → base.kind ≠ .storageSlot →
    (∀ f, nodeCount base ≤ f → insertStorageSlots f base = base') →
    ∀ f, nodeCount (mapIdx ks base) ≤ f → insertStorageSlots f (mapIdx ks base) = mapIdxS ks base'
  | [], _, _, _, _, hb, f, hf => hb f hf
  | k :: ks, base, base', hks, hns, hb, f, hf => by
    refine iss_mapIdx ks (mIdx base k) (mIdx (sSlot base') k) (fun x hx => hks x (List.mem_cons_of_mem _ hx))
      (by simp [mIdx, rebuild, SV.kind]) ?_ f hf
    intro f hf
    have hn : nodeCount (mIdx base k) = nodeCount base + nodeCount k + 1 := by
      simp [mIdx, rebuild, nodeCount, nodeCountList]
    have hns' : (base.kind == Kind.storageSlot) = false := by simpa using hns
    obtain ⟨f', rfl⟩ : ∃ f', f = f' + 1 := ⟨f - 1, by omega⟩
    simp only [mIdx, rebuild, insertStorageSlots, hns', sSlot]
    rw [hb f' (by omega), insertStorageSlots_id f' k (Inert_slots (hks k (by simp)))]
    simp

theorem mapIdx_kind : ∀ (ks : List SV) (base : SV), base.kind ≠ .storageSlot → (mapIdx ks base).kind ≠ .storageSlot
  | [], _, h => h
  | k :: ks, base, _ => mapIdx_kind ks (mIdx base k) (by simp [mIdx, rebuild, SV.kind])

theorem ima_usv (x x' : SV) (hx : ∀ f, nodeCount x ≤ f → insertMappingAccesses f x = x') :
    ∀ f, nodeCount (usv x) ≤ f → insertMappingAccesses f (usv x) = usv x' := by
  intro f hf
  have hn : nodeCount (usv x) = nodeCount x + 1 := by simp [usv, rebuild, nodeCount, nodeCountList]
  obtain ⟨f', rfl⟩ : ∃ f', f = f' + 1 := ⟨f - 1, by omega⟩
  simp only [usv, rebuild, insertMappingAccesses, List.map, hx f' (by omega)]

theorem iss_usv (x x' : SV) (hx : ∀ f, nodeCount x ≤ f → insertStorageSlots f x = x') :
    ∀ f, nodeCount (usv x) ≤ f → insertStorageSlots f (usv x) = usv x' := by
  intro f hf
  have hn : nodeCount (usv x) = nodeCount x + 1 := by simp [usv, rebuild, nodeCount, nodeCountList]
  obtain ⟨f', rfl⟩ : ∃ f', f = f' + 1 := ⟨f - 1, by omega⟩
  simp only [usv, rebuild, insertStorageSlots, List.map, hx f' (by omega)]

theorem Her_usv {ok : Kind → List Nat → List SV → Prop} (h : ∀ ks, ok .unwrittenStorageValue [] ks) {x : SV}
    (hx : Her ok x) : Her ok (usv x) := by
  simp [usv, Her_rebuild, h, hx]

/-- the machine's value for a read of the never-written element `base[k₁]…[kₙ]` of the mapping at slot `w` -/
def mapRead (ks : List SV) (w : Nat) : SV := rebuild .sLoad [] [mapKey ks (K w), usv (mapKey ks (K w))]

/-- what the passes see of a mapping key and of its lifted forms: nothing else to act on -/
theorem mapKey_facts (h : HashCtx) (w : Nat) (hw : h.table w = none) (ks : List SV)
    (hks : ∀ k ∈ ks, Inert k) :
    Her (okPre h) (mapKey ks (K w)) ∧ Her okMid (mapIdx ks (K w)) ∧
    Her (fun k _ _ => k ≠ .storageWrite) (mapIdx ks (K w)) ∧
    Her (fun k _ _ => k ≠ .sha3) (mapIdx ks (K w)) ∧ Her ok9 (mapIdxS ks (K w)) :=
  ⟨Her_mapKey (fun _ => okPre_ne h (by decide) (by decide) (by decide))
      (fun _ => okPre_ne h (by decide) (by decide) (by decide))
      ks _ (fun k hk => Inert_okPre h (hks k hk)) (Her_K_okPre h w hw),
    Her_mapIdx (fun _ => by simp [okMid]) ks _ (fun k hk => Inert_okMid (hks k hk))
      (Her_K (by simp [okMid])),
    Her_mapIdx (fun _ => by simp) ks _ (fun k hk => Inert_write (hks k hk)) (Her_K (by simp)),
    Her_mapIdx (fun _ => by simp) ks _ (fun k hk => Inert_sha3 (hks k hk)) (Her_K (by simp)),
    Her_mapIdxS (fun _ hh => by cases hh) (fun _ hh => by cases hh) ks _
      (fun k hk => Inert_ok9 (hks k hk)) (Her_K (fun hh => by cases hh))⟩

theorem mapping_read_lifted_eq (h : HashCtx) (w : Nat) (hw : h.table w = none) (ks : List SV)
    (hks : ∀ k ∈ ks, Inert k) :
    liftAll h (mapRead ks w) =
      .ok (rebuild .sLoad [] [sSlot (mapIdxS ks (K w)), usv (mapIdxS ks (K w))]) := by
  obtain ⟨hpre, hmid, hwr, hsh, h9⟩ := mapKey_facts h w hw ks hks
  have hima := fun f hf => mapping_key_lifted ks w hks f hf
  have hiss := iss_mapIdx ks (K w) (K w) hks (by simp [K, mkKnownNat, SV.kind]) (fun f _ => iss_K f w)
  unfold mapRead
  rw [liftAll_access h (Or.inl rfl) [] _ _ (mapIdx ks (K w)) (usv (mapIdx ks (K w))) hpre
    (Her_usv (fun _ => okPre_ne h (by decide) (by decide) (by decide)) hpre) (unpick_mapKey h ks hks w) hima
    (ima_usv _ _ hima) hmid (Her_usv (fun _ => by simp [okMid]) hmid)
    (fun f => liftPacked_id _ _ (by
      rw [Her_rebuild]
      refine ⟨by simp, ?_⟩
      intro x hx
      simp only [List.mem_cons, List.mem_nil_iff, or_false] at hx
      rcases hx with rfl | rfl
      · exact hwr
      · exact Her_usv (fun _ => by simp) hwr))]
  rw [stage9_access (Or.inl rfl) [] _ _ (mapIdx ks (K w)) (usv (mapIdx ks (K w))) (mapIdxS ks (K w))
    (usv (mapIdxS ks (K w)))
    (fun f _ => liftDynArray_id f _ hsh)
    (fun f _ => liftDynArray_id f _ (Her_usv (fun _ => by simp) hsh))
    (mapIdx_kind ks _ (by simp [K, mkKnownNat, SV.kind])) hiss (iss_usv _ _ hiss) h9
    (Her_usv (fun _ hh => by cases hh) h9)]

theorem mapDepth_K (w : Nat) : mapDepth (K w) = 0 := by simp [K, mkKnownNat, mapDepth]

theorem mapDepth_mapIdxS : ∀ (ks : List SV) (base : SV), mapDepth (mapIdxS ks base) = ks.length + mapDepth base
  | [], _ => by simp [mapIdxS]
  | k :: ks, base => by
    rw [mapIdxS, mapDepth_mapIdxS ks]
    simp [mIdx, sSlot, rebuild, mapDepth]; omega

theorem hasConstSlot_sSlot_K (w : Nat) : hasConstSlot w (sSlot (K w)) = true := by
  simp [hasConstSlot, sSlot, K, mkKnownNat, rebuild, anyNode]

theorem hasConstSlot_mapIdxS (w : Nat) : ∀ (ks : List SV) (base : SV), hasConstSlot w (sSlot base) = true →
    hasConstSlot w (sSlot (mapIdxS ks base)) = true
  | [], _, hb => hb
  | k :: ks, base, hb => by
    refine hasConstSlot_mapIdxS w ks _ ?_
    unfold hasConstSlot at hb ⊢
    exact TCSlots.anyNode_of_kid _ _ _ _ _ _ (List.mem_singleton.mpr rfl)
      (TCSlots.anyNode_of_kid _ _ _ _ _ _ (List.mem_cons_self) hb)

theorem mapIdxS_kind {ks : List SV} (hne : ks ≠ []) (base : SV) : (mapIdxS ks base).kind = .mappingIndex := by
  rcases snoc_cases ks with rfl | ⟨ks', k, rfl⟩
  · exact absurd rfl hne
  · rw [mapIdxS_snoc]; rfl

theorem mapping_read_lifted (h : HashCtx) (w : Nat) (hw : h.table w = none) (ks : List SV)
    (hks : ∀ k ∈ ks, Inert k) (hne : ks ≠ []) :
    ∃ v' y val, liftAll h (mapRead ks w) = .ok v' ∧ hasConstSlot w v' = true ∧
      v' = rebuild .sLoad [] [rebuild .storageSlot [] [y], val] ∧ y.kind = .mappingIndex ∧
      mapDepth y = ks.length ∧ y = mapIdxS ks (K w) := by
  refine ⟨_, mapIdxS ks (K w), _, mapping_read_lifted_eq h w hw ks hks, ?_, rfl, mapIdxS_kind hne _, ?_, rfl⟩
  · unfold hasConstSlot
    exact TCSlots.anyNode_of_kid _ _ _ _ _ _ (List.mem_cons_self)
      (hasConstSlot_mapIdxS w ks (K w) (hasConstSlot_sSlot_K w))
  · rw [mapDepth_mapIdxS, mapDepth_K]; rfl

/-- what the shapes look like at depth 2: `m[caller][v7]` at slot 3 -/
example : mapKey [callerV, mkValue 7] (K 3) = sha3c (mkValue 7) (sha3c callerV (K 3)) := rfl
example : mapIdxS [callerV, mkValue 7] (K 3) =
    rebuild .mappingIndex [0] [rebuild .storageSlot [] [
      rebuild .mappingIndex [0] [rebuild .storageSlot [] [K 3], callerV]], mkValue 7] := rfl
example : mapDepth (mapIdxS [callerV, mkValue 7] (K 3)) = 2 := by
  rw [mapDepth_mapIdxS, mapDepth_K]; rfl

/-! ### dynamic arrays -/

/-- element `idx` of the dynamic array at slot `w`: `keccak(w) + idx` — the shape with the slot hashed directly … -/
def dynKey (w : Nat) (idx : SV) : SV := rebuild .add [] [rebuild .sha3 [] [K w], idx]
/-- … and the shape where the hash input is a one-element `concat`; `liftDynArray` accepts both -/
def dynKeyC (w : Nat) (idx : SV) : SV := rebuild .add [] [rebuild .sha3 [] [rebuild .concat [] [K w]], idx]

def dIdx (slot idx : SV) : SV := rebuild .dynamicArrayIndex [] [slot, idx]

theorem unpickSha3Data_inert (h : HashCtx) {t : SV} (ht : Inert t) : unpickSha3Data h t = none := by
  have := Inert_kind ht
  unfold unpickSha3Data
  split
  · simp [SV.kind, inertKind] at this
  · rfl

theorem unpick_add (h : HashCtx) (a : List Nat) (l idx : SV) (hidx : Inert idx) :
    unpickProxySlots h (rebuild .add a [l, idx]) = none := by
  have hi : idx.asWord = none :=
    asWord_none (inert_ne (Inert_kind hidx))
  have hf : ∀ nl, (fold (rebuild .add a [nl, idx])).kind = .add := by
    intro nl
    simp only [rebuild, fold, foldList, fold_inert hidx, foldNode, knownBin, hi]
    split <;> simp_all [SV.kind]
  simp only [rebuild] at hf
  simp only [rebuild, unpickProxySlots, unpickSha3Data_inert h hidx]
  cases unpickSha3Data h l <;> simp [hf]

theorem unpickOrs_inert : ∀ (fuel : Nat) (v : SV), Inert v → ∃ e ∈ unpickOrs fuel v, Inert e := by
  intro fuel
  induction fuel with
  | zero => intro v hv; exact ⟨v, by simp [unpickOrs], hv⟩
  | succ n ih =>
    intro v hv
    unfold unpickOrs
    split
    · rename_i a l r s
      obtain ⟨e, he, hie⟩ := ih l ((Inert_node.mp hv).2.2 l (by simp))
      exact ⟨e, List.mem_append_left _ he, hie⟩
    · exact ⟨v, by simp, hv⟩

theorem liftPacked_write (f : Nat) (a : List Nat) (key val : SV)
    (hk : Her (fun k _ _ => k ≠ .storageWrite) key) (hv : Inert val) :
    liftPacked (f + 1) (rebuild .storageWrite a [key, val]) = .ok (rebuild .storageWrite a [key, val]) := by
  have hall : (unpickOrs (nodeCount val) val).all (fun e => e.kind == .shifted || e.kind == .subWord) = false := by
    obtain ⟨e, he, hie⟩ := unpickOrs_inert (nodeCount val) val hv
    rw [List.all_eq_false]
    refine ⟨e, he, ?_⟩
    exact Bool.eq_false_iff.1 (Bool.or_eq_false_iff.2
      ⟨beq_eq_false_iff_ne.2 (inert_ne (k0 := .shifted) (Inert_kind hie)),
        beq_eq_false_iff_ne.2 (inert_ne (k0 := .subWord) (Inert_kind hie))⟩)
  have hm : mapE (liftPacked f) [key, val] = .ok [key, val] :=
    mapE_id (fun x hx => by
      simp only [List.mem_cons, List.mem_nil_iff, or_false] at hx
      rcases hx with rfl | rfl
      · exact liftPacked_id f _ hk
      · exact liftPacked_id f _ (Inert_write hv))
  simp only [rebuild, liftPacked, hall, hm]
  rfl

theorem mapping_write_lifted_eq (h : HashCtx) (w : Nat) (hw : h.table w = none) (ks : List SV)
    (hks : ∀ k ∈ ks, Inert k) (val : SV) (hval : Inert val) :
    liftAll h (rebuild .storageWrite [] [mapKey ks (K w), val]) =
      .ok (rebuild .storageWrite [] [sSlot (mapIdxS ks (K w)), val]) := by
  obtain ⟨hpre, hmid, hwr, hsh, h9⟩ := mapKey_facts h w hw ks hks
  have hima := fun f hf => mapping_key_lifted ks w hks f hf
  have hiss := iss_mapIdx ks (K w) (K w) hks (by simp [K, mkKnownNat, SV.kind]) (fun f _ => iss_K f w)
  rw [liftAll_access h (Or.inr rfl) [] _ val (mapIdx ks (K w)) val hpre (Inert_okPre h hval)
    (unpick_mapKey h ks hks w) hima (fun f _ => insertMappingAccesses_id f val (Inert_sha3 hval)) hmid
    (Inert_okMid hval) (fun f => liftPacked_write f [] _ val hwr hval)]
  rw [stage9_access (Or.inr rfl) [] _ val (mapIdx ks (K w)) val (mapIdxS ks (K w)) val
    (fun f _ => liftDynArray_id f _ hsh) (fun f _ => liftDynArray_id f val (Inert_sha3 hval))
    (mapIdx_kind ks _ (by simp [K, mkKnownNat, SV.kind])) hiss
    (fun f _ => insertStorageSlots_id f val (Inert_slots hval)) h9 (Inert_ok9 hval)]

theorem lda_usv (x x' : SV) (hx : ∀ f, nodeCount x ≤ f → liftDynArray f x = x') :
    ∀ f, nodeCount (usv x) ≤ f → liftDynArray f (usv x) = usv x' := by
  intro f hf
  have hn : nodeCount (usv x) = nodeCount x + 1 := by simp [usv, rebuild, nodeCount, nodeCountList]
  obtain ⟨f', rfl⟩ : ∃ f', f = f' + 1 := ⟨f - 1, by omega⟩
  simp only [usv, rebuild, liftDynArray, List.map, hx f' (by omega)]

theorem lda_dynKey (w : Nat) (idx : SV) (hidx : Inert idx) :
    ∀ f, nodeCount (dynKey w idx) ≤ f → liftDynArray f (dynKey w idx) = dIdx (K w) idx := by
  intro f hf
  have hn : nodeCount (dynKey w idx) = nodeCount idx + 3 := by
    simp [dynKey, K, mkKnownNat, rebuild, nodeCount, nodeCountList]; omega
  obtain ⟨f', rfl⟩ : ∃ f', f = f' + 1 := ⟨f - 1, by omega⟩
  have hK := lda_K f' w
  simp only [K, mkKnownNat] at hK
  simp only [dynKey, rebuild, liftDynArray, dIdx, K, mkKnownNat]
  rw [liftDynArray_id f' idx (Inert_sha3 hidx), hK]

theorem lda_dynKeyC (w : Nat) (idx : SV) (hidx : Inert idx) :
    ∀ f, nodeCount (dynKeyC w idx) ≤ f → liftDynArray f (dynKeyC w idx) = dIdx (K w) idx := by
  intro f hf
  have hn : nodeCount (dynKeyC w idx) = nodeCount idx + 4 := by
    simp [dynKeyC, K, mkKnownNat, rebuild, nodeCount, nodeCountList]; omega
  obtain ⟨f', rfl⟩ : ∃ f', f = f' + 1 := ⟨f - 1, by omega⟩
  simp only [dynKeyC, rebuild, liftDynArray, dIdx]
  rw [liftDynArray_id f' idx (Inert_sha3 hidx), fold_K, lda_K]

theorem iss_dIdx (w : Nat) (idx : SV) (hidx : Inert idx) :
    ∀ f, nodeCount (dIdx (K w) idx) ≤ f → insertStorageSlots f (dIdx (K w) idx) = dIdx (sSlot (K w)) idx := by
  intro f hf
  have hn : nodeCount (dIdx (K w) idx) = nodeCount idx + 2 := by
    simp [dIdx, K, mkKnownNat, rebuild, nodeCount, nodeCountList]; omega
  obtain ⟨f', rfl⟩ : ∃ f', f = f' + 1 := ⟨f - 1, by omega⟩
  simp only [dIdx, rebuild, insertStorageSlots, sSlot]
  rw [insertStorageSlots_id f' idx (Inert_slots hidx), iss_K]
  simp [K, mkKnownNat, SV.kind]

theorem Inert_ok3 {t : SV} (ht : Inert t) : Her ok3 t :=
  Her_mono (fun _ _ _ hk hh => absurd hh hk) t (Inert_sha3 ht)

theorem Her_dynKey {ok : Kind → List Nat → List SV → Prop} {w : Nat} {idx : SV}
    (h1 : ∀ ks, ok .add [] ks) (h2 : ok .sha3 [] [K w]) (hK : ok .knownData [w] []) (hidx : Her ok idx) :
    Her ok (dynKey w idx) := by
  simp [dynKey, Her_rebuild, h1, h2, Her_K hK, hidx]

theorem Her_dynKeyC {ok : Kind → List Nat → List SV → Prop} {w : Nat} {idx : SV}
    (h1 : ∀ ks, ok .add [] ks) (h2 : ok .sha3 [] [rebuild .concat [] [K w]]) (h3 : ok .concat [] [K w])
    (hK : ok .knownData [w] []) (hidx : Her ok idx) :
    Her ok (dynKeyC w idx) := by
  simp [dynKeyC, Her_rebuild, h1, h2, h3, Her_K hK, hidx]

/-- the pipeline on an access whose key `liftDynArray` turns into `dynamicArrayIndex [K w, idx]` -/
theorem dyn_array_generic (h : HashCtx) (w : Nat) (idx key : SV) (hidx : Inert idx)
    (hpre : Her (okPre h) key) (hu : unpickProxySlots h key = none) (h3 : Her ok3 key)
    (hmid : Her okMid key) (hwr : Her (fun k _ _ => k ≠ .storageWrite) key)
    (hlda : ∀ f, nodeCount key ≤ f → liftDynArray f key = dIdx (K w) idx) :
    liftAll h (rebuild .sLoad [] [key, usv key]) =
        .ok (rebuild .sLoad [] [sSlot (dIdx (sSlot (K w)) idx), usv (dIdx (sSlot (K w)) idx)]) ∧
    ∀ val, Inert val → liftAll h (rebuild .storageWrite [] [key, val]) =
        .ok (rebuild .storageWrite [] [sSlot (dIdx (sSlot (K w)) idx), val]) := by
  have hima : ∀ f, nodeCount key ≤ f → insertMappingAccesses f key = key :=
    fun f _ => insertMappingAccesses_id' f key h3
  have h9 : Her ok9 (dIdx (sSlot (K w)) idx) := by
    simp only [dIdx, sSlot, Her_rebuild]
    refine ⟨(fun hh => by cases hh), ?_⟩
    intro x hx
    simp only [List.mem_cons, List.mem_nil_iff, or_false] at hx
    rcases hx with rfl | rfl
    · rw [Her_rebuild]
      exact ⟨(fun hh => by cases hh), fun x hx => by
        rw [List.mem_singleton.mp hx]; exact Her_K (fun hh => by cases hh)⟩
    · exact Inert_ok9 hidx
  have hns : (dIdx (K w) idx).kind ≠ .storageSlot := by simp [dIdx, rebuild, SV.kind]
  constructor
  · rw [liftAll_access h (Or.inl rfl) [] key (usv key) key (usv key) hpre
      (Her_usv (fun _ => okPre_ne h (by decide) (by decide) (by decide)) hpre) hu hima (ima_usv _ _ hima) hmid
      (Her_usv (fun _ => by simp [okMid]) hmid)
      (fun f => liftPacked_id _ _ (by
        rw [Her_rebuild]
        refine ⟨by simp, ?_⟩
        intro x hx
        simp only [List.mem_cons, List.mem_nil_iff, or_false] at hx
        rcases hx with rfl | rfl
        · exact hwr
        · exact Her_usv (fun _ => by simp) hwr))]
    rw [stage9_access (Or.inl rfl) [] key (usv key) (dIdx (K w) idx) (usv (dIdx (K w) idx))
      (dIdx (sSlot (K w)) idx) (usv (dIdx (sSlot (K w)) idx)) hlda (lda_usv _ _ hlda) hns
      (iss_dIdx w idx hidx) (iss_usv _ _ (iss_dIdx w idx hidx)) h9 (Her_usv (fun _ hh => by cases hh) h9)]
  · intro val hval
    rw [liftAll_access h (Or.inr rfl) [] key val key val hpre (Inert_okPre h hval) hu hima
      (fun f _ => insertMappingAccesses_id f val (Inert_sha3 hval)) hmid (Inert_okMid hval)
      (fun f => liftPacked_write f [] key val hwr hval)]
    rw [stage9_access (Or.inr rfl) [] key val (dIdx (K w) idx) val
      (dIdx (sSlot (K w)) idx) val hlda (fun f _ => liftDynArray_id f val (Inert_sha3 hval)) hns
      (iss_dIdx w idx hidx) (fun f _ => insertStorageSlots_id f val (Inert_slots hval)) h9 (Inert_ok9 hval)]

theorem dynKey_facts (h : HashCtx) (w : Nat) (hw : h.table w = none) (idx : SV) (hidx : Inert idx) :
    Her (okPre h) (dynKey w idx) ∧ unpickProxySlots h (dynKey w idx) = none ∧ Her ok3 (dynKey w idx) ∧
    Her okMid (dynKey w idx) ∧ Her (fun k _ _ => k ≠ .storageWrite) (dynKey w idx) := by
  refine ⟨?_, unpick_add h [] _ idx hidx, ?_, ?_, ?_⟩
  · exact Her_dynKey (fun _ => okPre_ne h (by decide) (by decide) (by decide))
      (okPre_ne h (by decide) (by decide) (by decide))
      (Her_K_okPre h w hw).1 (Inert_okPre h hidx)
  · exact Her_dynKey (fun _ hh => by cases hh)
      (fun _ c hc hk => by rw [List.mem_singleton.mp hc] at hk; cases hk)
      (fun hh => by cases hh) (Inert_ok3 hidx)
  · exact Her_dynKey (fun _ => by simp [okMid]) (by simp [okMid]) (by simp [okMid]) (Inert_okMid hidx)
  · exact Her_dynKey (fun _ => by simp) (by simp) (by simp) (Inert_write hidx)

theorem dynKeyC_facts (h : HashCtx) (w : Nat) (hw : h.table w = none) (idx : SV) (hidx : Inert idx) :
    Her (okPre h) (dynKeyC w idx) ∧ unpickProxySlots h (dynKeyC w idx) = none ∧ Her ok3 (dynKeyC w idx) ∧
    Her okMid (dynKeyC w idx) ∧ Her (fun k _ _ => k ≠ .storageWrite) (dynKeyC w idx) := by
  refine ⟨?_, unpick_add h [] _ idx hidx, ?_, ?_, ?_⟩
  · exact Her_dynKeyC (fun _ => okPre_ne h (by decide) (by decide) (by decide))
      (okPre_ne h (by decide) (by decide) (by decide)) (okPre_ne h (by decide) (by decide) (by decide))
      (Her_K_okPre h w hw).1 (Inert_okPre h hidx)
  · exact Her_dynKeyC (fun _ hh => by cases hh)
      (fun _ c hc _ => by rw [List.mem_singleton.mp hc]; simp [rebuild, SV.kids])
      (fun hh => by cases hh) (fun hh => by cases hh) (Inert_ok3 hidx)
  · exact Her_dynKeyC (fun _ => by simp [okMid]) (by simp [okMid]) (by simp [okMid]) (by simp [okMid])
      (Inert_okMid hidx)
  · exact Her_dynKeyC (fun _ => by simp) (by simp) (by simp) (by simp) (Inert_write hidx)

theorem dyn_array_lifted (h : HashCtx) (w : Nat) (hw : h.table w = none) (idx : SV) (hidx : Inert idx)
    (key : SV) (hkey : key = dynKey w idx ∨ key = dynKeyC w idx) :
    let slotKey := rebuild .storageSlot [] [rebuild .dynamicArrayIndex [] [rebuild .storageSlot [] [K w], idx]]
    hasConstSlot w slotKey = true ∧
    liftAll h (rebuild .sLoad [] [key, usv key]) =
      .ok (rebuild .sLoad [] [slotKey, usv (rebuild .dynamicArrayIndex [] [rebuild .storageSlot [] [K w], idx])]) ∧
    ∀ val, Inert val →
      liftAll h (rebuild .storageWrite [] [key, val]) = .ok (rebuild .storageWrite [] [slotKey, val]) := by
  refine ⟨?_, ?_⟩
  · unfold hasConstSlot
    exact TCSlots.anyNode_of_kid _ _ _ _ _ _ (List.mem_singleton.mpr rfl)
      (TCSlots.anyNode_of_kid _ _ _ _ _ _ (List.mem_cons_self) (hasConstSlot_sSlot_K w))
  rcases hkey with rfl | rfl
  · obtain ⟨h1, h2, h3, h4, h5⟩ := dynKey_facts h w hw idx hidx
    exact dyn_array_generic h w idx _ hidx h1 h2 h3 h4 h5 (lda_dynKey w idx hidx)
  · obtain ⟨h1, h2, h3, h4, h5⟩ := dynKeyC_facts h w hw idx hidx
    exact dyn_array_generic h w idx _ hidx h1 h2 h3 h4 h5 (lda_dynKeyC w idx hidx)

/-- the commuted sum `idx + keccak(w)` is also matched, but the model (as the Rust) then takes the
*right* operand — the hash itself — as the index -/
example : liftDynArray 5 (rebuild .add [] [callerV, rebuild .sha3 [] [K 3]]) =
    rebuild .dynamicArrayIndex [] [K 3, rebuild .sha3 [] [K 3]] := by
  simp [liftDynArray, rebuild, callerV, K, mkKnownNat, childSize]

/-! ### the inference rules on the lifted shapes -/

theorem rule_mapping (st : RegState) (sa : List Nat) (slot key : TV) (tm t : Nat) :
    let v := TV.node .storageSlot sa [.node .mappingIndex [0] [slot, key] tm] t
    (slot.tv, TE.mapping key.tv st.next) ∈ (applyRules st v).judgements ∧
    (st.next, TE.packed [⟨t, 0, 256⟩] false) ∈ (applyRules st v).judgements ∧
    (tm, uword) ∈ (applyRules st v).judgements ∧
    (applyRules st v).next = st.next + 1 := by
  intro v
  have he : emitted st.next v
      = [(tm, uword), (st.next, .packed [⟨t, 0, 256⟩] false), (slot.tv, .mapping key.tv st.next)] := rfl
  have hf : fresh v = 1 := rfl
  rw [applyRules_eq, he, hf]
  exact ⟨mem_inferList (by simp) (fun _ hh => by cases hh) _, mem_inferList (by simp) (fun _ hh => by cases hh) _, mem_inferList (by simp) (fun _ hh => by cases hh) _,
    inferList_next _ _⟩

theorem rule_dyn_array (st : RegState) (a sa da : List Nat) (d f value : TV) (td tk t : Nat)
    (hd : d.kind = .storageSlot) :
    let key := TV.node .storageSlot sa [.node .dynamicArrayIndex da [d, f] td] tk
    let v := TV.node .storageWrite a [key, value] t
    (d.tv, TE.dynamicArray tk) ∈ (applyRules st v).judgements ∧
    (f.tv, uword) ∈ (applyRules st v).judgements ∧
    (applyRules st v).next = st.next := by
  intro key v
  have he : emitted st.next v
      = [(tk, .equal value.tv), (value.tv, .equal tk), (tk, .equal value.tv), (f.tv, uword),
          (d.tv, .dynamicArray tk)] := by
    simp only [v, key, emitted, envRules, kidRules, dynView, hd, TV.tv, beq_self_eq_true, if_true,
      List.nil_append]
  have hf : fresh v = 0 := rfl
  rw [applyRules_eq, he, hf]
  exact ⟨mem_inferList (by simp) (fun _ hh => by cases hh) _, mem_inferList (by simp) (fun _ hh => by cases hh) _, inferList_next _ _⟩

theorem rule_subword (st : RegState) (off size : Nat) (sub : TV) (t : Nat) :
    let v := TV.node .subWord [off, size] [sub] t
    (t, TE.word (some size) .bytes) ∈ (applyRules st v).judgements ∧
    (sub.tv, TE.packed [⟨t, off, size⟩] false) ∈ (applyRules st v).judgements ∧
    (applyRules st v).next = st.next := by
  intro v
  have he : emitted st.next v = [(t, bytesN (some size)), (sub.tv, .packed [⟨t, off, size⟩] false)] := rfl
  have hf : fresh v = 0 := rfl
  rw [applyRules_eq, he, hf]
  exact ⟨mem_inferList (by simp [bytesN]) (fun _ hh => by cases hh) _, mem_inferList (by simp) (fun _ hh => by cases hh) _, inferList_next _ _⟩

end SLE.Idioms

#print axioms SLE.Idioms.mask_region
#print axioms SLE.Idioms.and_mask_is_subword
#print axioms SLE.Idioms.mapping_key_lifted
#print axioms SLE.Idioms.mapping_read_lifted_eq
#print axioms SLE.Idioms.mapping_read_lifted
#print axioms SLE.Idioms.dyn_array_lifted
#print axioms SLE.Idioms.rule_mapping
#print axioms SLE.Idioms.rule_dyn_array
#print axioms SLE.Idioms.rule_subword
