import SLE.Lemmas.VMControl
/-
C17 — strict vs permissive error mode: the flag influences nothing but which errors are
recorded.
-/
namespace SLE.VM
open SLE SLE.SV SLE.Disasm

@[reducible] def strict (cfg : Cfg) : Cfg := { cfg with permissive := false }
@[reducible] def perm (cfg : Cfg) : Cfg := { cfg with permissive := true }

/-- Forget the recorded errors of the four jump kinds. -/
def dropJump (s : VMS) : VMS :=
  { s with errors := s.errors.filter (fun e => !e.2.isJumpKind) }

/-! ### filtering commutes with the sorted insertion -/

/-- sorted by location -/
def LocSorted (l : List (Nat × XErr)) : Prop := l.Pairwise (fun a b => a.1 ≤ b.1)

theorem go_sorted (x : Nat × XErr) : ∀ l, LocSorted l → LocSorted (insertLocated.go x l)
  | [], _ => by simp [insertLocated.go, LocSorted]
  | y :: r, h => by
    rw [insertLocated.go]
    unfold LocSorted at h ⊢
    have hy := (List.pairwise_cons.mp h).1
    have hr := (List.pairwise_cons.mp h).2
    split
    · rename_i hlt
      refine List.pairwise_cons.mpr ⟨fun z hz => ?_, h⟩
      rcases List.mem_cons.mp hz with hz | hz
      · rw [hz]; omega
      · have := hy z hz; omega
    · rename_i hnlt
      refine List.pairwise_cons.mpr ⟨fun z hz => ?_, go_sorted x r hr⟩
      rcases (mem_insertLocated_go x z r).mp hz with hz | hz
      · rw [hz]; omega
      · exact hy z hz

theorem go_of_lt (x : Nat × XErr) : ∀ l : List (Nat × XErr), (∀ z ∈ l, x.1 < z.1) →
    insertLocated.go x l = x :: l
  | [], _ => rfl
  | y :: r, h => by rw [insertLocated.go, if_pos (h y (by simp))]

theorem filter_go_drop (p : Nat × XErr → Bool) (x : Nat × XErr) (hx : p x = false) :
    ∀ l, (insertLocated.go x l).filter p = l.filter p
  | [] => by simp [insertLocated.go, hx]
  | y :: r => by
    rw [insertLocated.go]
    split
    · simp [List.filter_cons, hx]
    · simp only [List.filter_cons, filter_go_drop p x hx r]

theorem filter_go_keep (p : Nat × XErr → Bool) (x : Nat × XErr) (hx : p x = true) :
    ∀ l, LocSorted l → (insertLocated.go x l).filter p = insertLocated.go x (l.filter p)
  | [], _ => by simp [insertLocated.go, hx]
  | y :: r, h => by
    unfold LocSorted at h
    have hy := (List.pairwise_cons.mp h).1
    have hr := (List.pairwise_cons.mp h).2
    rw [insertLocated.go]
    split
    · rename_i hlt
      rw [List.filter_cons, if_pos hx]
      rw [go_of_lt x ((y :: r).filter p)]
      intro z hz
      have hz' := (List.mem_filter.mp hz).1
      rcases List.mem_cons.mp hz' with hz' | hz'
      · rw [hz']; exact hlt
      · have := hy z hz'; omega
    · rename_i hnlt
      rw [List.filter_cons, filter_go_keep p x hx r hr, List.filter_cons]
      split
      · rw [insertLocated.go, if_neg hnlt]
      · rfl

theorem filter_foldl_go (p : Nat × XErr → Bool) :
    ∀ (l acc : List (Nat × XErr)), LocSorted acc →
      (l.foldl (fun acc x => insertLocated.go x acc) acc).filter p =
        (l.filter p).foldl (fun acc x => insertLocated.go x acc) (acc.filter p)
  | [], _, _ => rfl
  | x :: l, acc, h => by
    rw [List.foldl_cons, filter_foldl_go p l _ (go_sorted x acc h), List.filter_cons]
    cases hx : p x with
    | true => rw [if_pos rfl, List.foldl_cons, filter_go_keep p x hx acc h]
    | false => rw [filter_go_drop p x hx]; simp

/-- Filtering commutes with `insertLocated` when the inserted error is kept. -/
theorem filter_insertLocated (p : Nat × XErr → Bool) (es : List (Nat × XErr)) (e : Nat × XErr)
    (he : p e = true) : (insertLocated es e).filter p = insertLocated (es.filter p) e := by
  show (List.foldl (fun acc x => insertLocated.go x acc) [] (es ++ [e])).filter p =
    List.foldl (fun acc x => insertLocated.go x acc) [] (es.filter p ++ [e])
  rw [filter_foldl_go p _ _ (by simp [LocSorted]), List.filter_append]
  simp [he]

/-! ### the two modes, step by step -/

variable (cfg : Cfg) (code : List Instr) (s : VMS) (t : Thread) (rest : List Thread) (ins : Instr)
  (o : OpOut)

theorem opOut_perm :
    opOut (perm cfg) code (dropJump s) t ins = opOut (strict cfg) code s t ins := by
  unfold opOut
  show execOp { cfg := { cfg with permissive := true }, ip := t.ip, codeLen := code.length } code ins
      t.d s.ctr =
    execOp { cfg := { cfg with permissive := false }, ip := t.ip, codeLen := code.length } code ins
      t.d s.ctr
  rw [execOp_cfg_perm, execOp_cfg_perm cfg false]

theorem advance_perm :
    advance (perm cfg) code (dropJump s) = dropJump (advance (strict cfg) code s) := by
  cases hq : s.queue with
  | nil => rw [advance_nil hq, advance_nil (s := dropJump s) hq]; rfl
  | cons t rest =>
    have hq' : (dropJump s).queue = t :: rest := hq
    rw [advance_cons hq, advance_cons hq']
    split <;> rename_i hc
    · refine Eq.trans ?_ (congrArg dropJump (if_pos hc).symm)
      dsimp only [dropJump, perm, strict]
      by_cases hg : t.gas > cfg.gasLimit
      · rw [if_pos hg, if_pos hg, filter_insertLocated _ _ _ rfl]
      · rw [if_neg hg, if_neg hg]
    · refine Eq.trans ?_ (congrArg dropJump (if_neg hc).symm)
      rfl

theorem midOk_perm (hs : ∀ e, o.softErr = some e → e.isJumpKind = true) :
    midOk (perm cfg) (dropJump s) t rest ins o = dropJump (midOk (strict cfg) s t rest ins o) := by
  unfold midOk
  dsimp only
  split
  · rfl
  · split
    · split <;> rename_i hc
      · refine Eq.trans ?_ (congrArg dropJump (if_pos hc).symm)
        rfl
      · refine Eq.trans ?_ (congrArg dropJump (if_neg hc).symm)
        rfl
    · split
      · rename_i e he
        simp only [dropJump, Bool.false_eq_true, if_false, if_true, List.filter_append,
          List.filter_cons, List.filter_nil, hs e he, Bool.not_true, List.append_nil]
      · rfl

theorem midErr_perm (e : XErr) :
    midErr (perm cfg) (dropJump s) t rest o e = dropJump (midErr (strict cfg) s t rest o e) := by
  unfold midErr
  cases hj : e.isJumpKind <;>
    simp [dropJump, List.filter_append, hj]

/-- The flag influences nothing but which errors are recorded. -/
theorem step_perm_eq :
    step (perm cfg) code (dropJump s) = dropJump (step (strict cfg) code s) := by
  have hop := opOut_perm cfg code s
  refine step_cases (cfg := strict cfg)
    (motive := fun s' => step (perm cfg) code (dropJump s) = dropJump s')
    (fun hq => step_nil (s := dropJump s) hq) (fun t rest hq hi => step_oob (s := dropJump s) hq hi)
    (fun t rest ins site hq hi he => step_panic (s := dropJump s) hq hi ((congrArg OpOut.err (hop t ins)).trans he))
    (fun t rest ins hq hi he => ?_) (fun t rest ins e hq hi he hp => ?_)
  · rw [step_ok (s := dropJump s) hq hi (by rw [hop]; exact he), hop, ← advance_perm,
      midOk_perm cfg s t rest ins (opOut (strict cfg) code s t ins) fun e h => execOp_softErr h]
  · rw [step_err (s := dropJump s) hq hi (by rw [hop]; exact he) hp, hop, ← advance_perm,
      midErr_perm]

theorem run_perm_eq' :
    ∀ (fuel : Nat) (s : VMS),
      run (perm cfg) code fuel (dropJump s) = dropJump (run (strict cfg) code fuel s)
  | 0, _ => rfl
  | fuel + 1, s => by
    by_cases hc : (s.queue.isEmpty || s.aborted.isSome) = true
    · rw [run_stop hc, run_stop (s := dropJump s) hc]
    · rw [run_succ hc, run_succ (s := dropJump s) hc, step_perm_eq, run_perm_eq' fuel]

theorem run_perm_eq (fuel : Nat) :
    run (perm cfg) code fuel (initVM (perm cfg) code) =
      dropJump (run (strict cfg) code fuel (initVM (strict cfg) code)) :=
  run_perm_eq' cfg code fuel (initVM (strict cfg) code)

theorem dropJump_of_errors_nil {s : VMS} (h : s.errors = []) : dropJump s = s := by
  obtain ⟨queue, stored, forks, killed, errors, ctr, created, aborted⟩ := s
  simp only at h
  subst h
  rfl

/-! ### errors only grow -/

theorem advance_errors_grow :
    ∀ x ∈ s.errors, x ∈ (advance cfg code s).errors := by
  intro x hx
  cases hq : s.queue with
  | nil => rw [advance_nil hq]; exact hx
  | cons t rest =>
    rw [advance_cons hq]
    split
    · dsimp only
      split
      · exact (mem_insertLocated _ _ _).mpr (.inl hx)
      · exact hx
    · exact hx

theorem midOk_errors_grow : ∀ x ∈ s.errors, x ∈ (midOk cfg s t rest ins o).errors := by
  intro x hx
  refine midOk_cases (motive := fun s' => x ∈ s'.errors) (fun _ _ => hx) (fun _ _ _ _ => hx)
    (fun e _ _ _ => ?_) (fun _ _ => hx)
  dsimp only
  split
  · exact hx
  · exact List.mem_append_left _ hx

theorem midErr_errors_grow (e : XErr) : ∀ x ∈ s.errors, x ∈ (midErr cfg s t rest o e).errors := by
  intro x hx
  unfold midErr
  dsimp only
  split
  · exact hx
  · exact List.mem_append_left _ hx

/-- `errors` only ever grows along a step (in either mode). -/
theorem step_errors_grow :
    ∀ x ∈ s.errors, x ∈ (step cfg code s).errors := fun x hx =>
  step_cases (motive := fun s' => x ∈ s'.errors) (fun _ => hx) (fun _ _ _ _ => hx)
    (fun _ _ _ _ _ _ _ => hx)
    (fun _ _ _ _ _ _ => advance_errors_grow _ _ _ x (midOk_errors_grow _ _ _ _ _ _ x hx))
    (fun _ _ _ _ _ _ _ _ => advance_errors_grow _ _ _ x (midErr_errors_grow _ _ _ _ _ _ x hx))

end SLE.VM
