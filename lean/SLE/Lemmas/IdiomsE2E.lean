import SLE.Lemmas.Idioms
import SLE.Lemmas.Unify
/-!
C04, end to end — for the canonical storage idioms the final *layout* of `TC.analyse` has the right
entry, for every slot number `w`: a plain word (`E1`), an address, masked or not (`E2_unmasked`,
`E2_partial`), a mapping keyed by an address (`E3`), a dynamic array (`E4`); for a word-keyed mapping, a
mapping of depth 2 and two fields packed in one word the stages are proved here and put together in
`Props/C04E2E.lean`.

Method: lifting is taken from `Idioms.lean` (general in `w`); registration and the rules are evaluated
symbolically in `w` (`reg*`: the judgement list does not depend on `w`); unification and rendering of
the resulting closed judgement list are decided by the kernel (`chk`), for the least fuel, and lifted
to any larger fuel by `unify_mono`; the layout loop sees exactly one constant slot (`OneSlot`).
-/
namespace SLE.IdiomsE2E
open SLE SLE.SV SLE.Lift SLE.TC SLE.Idioms
open SLE.LiftInv (cnt stage3 stage5 stage7 stage8 stage9 liftAll_eq)

def valueV : SV := rebuild .callValue [] []

theorem Inert_valueV : Inert valueV := by simp [Inert, valueV, rebuild, Her, HerL, inertKind, childSize]
theorem Inert_callerV : Inert callerV := by simp [Inert, callerV, Her, HerL, inertKind, childSize]

theorem lift_write_K (h : HashCtx) (w : Nat) (hw : h.table w = none) (val : SV) (hval : Inert val) :
    liftAll h (rebuild .storageWrite [] [K w, val]) = .ok (rebuild .storageWrite [] [sSlot (K w), val]) := by
  rw [liftAll_access h (Or.inr rfl) [] (K w) val (K w) val (Her_K_okPre h w hw) (Inert_okPre h hval)
      (unpick_K h w) (fun f _ => ima_K f w)
      (fun f _ => insertMappingAccesses_id f val (Inert_sha3 hval)) (Her_K (by simp [okMid])) (Inert_okMid hval)
      (fun f => liftPacked_write f [] (K w) val (Her_K (by simp)) hval)]
  rw [stage9_access (Or.inr rfl) [] (K w) val (K w) val (K w) val (fun f _ => lda_K f w)
      (fun f _ => liftDynArray_id f val (Inert_sha3 hval)) (by simp [K, mkKnownNat, SV.kind])
      (fun f _ => iss_K f w) (fun f _ => insertStorageSlots_id f val (Inert_slots hval))
      (Her_K (fun hh => by cases hh)) (Inert_ok9 hval)]

/-! ### the pipeline after lifting, for a single value -/

theorem analyse_single (h : HashCtx) (o : Unify.Orders) (fuel : Nat) (v lifted : SV)
    (hl : liftAll h v = .ok lifted) :
    (analyse h o fuel [v]).outcome =
      tailOutcome o fuel (inferAll (registerAll [lifted])).next (inferAll (registerAll [lifted])).judgements
        (registerAll [lifted]).values :=
  analyse_outcome h o fuel [v] [lifted] (by simp [uniqueSV, liftValues, hl])

theorem unifyLoop_mono (o : Unify.Orders) : ∀ (c : Nat) (f : Unify.Forest) (next counter rounds : Nat) r,
    Unify.unifyLoop o c f next counter rounds = .ok r →
    ∀ k, Unify.unifyLoop o (c + k) f next counter rounds = .ok r := by
  intro c
  induction c with
  | zero => intro f next counter rounds r h; simp [Unify.unifyLoop] at h
  | succ c ih =>
    intro f next counter rounds r h k
    have hk : c + 1 + k = (c + k) + 1 := by omega
    rw [hk]
    simp only [Unify.unifyLoop] at h ⊢
    split
    · rename_i e he; rw [he] at h; simp at h
    · rename_i acc he
      rw [he] at h
      simp only at h
      split
      · rename_i hp; rw [if_pos hp] at h; exact ih _ _ _ _ _ h k
      · rename_i hp; rw [if_neg hp] at h; exact h

theorem unify_mono (o : Unify.Orders) (c n : Nat) (infs : Nat → List TE) r
    (h : Unify.unify o c n infs = .ok r) (k : Nat) : Unify.unify o (c + k) n infs = .ok r := by
  simp only [Unify.unify] at h ⊢
  split
  · rename_i e he; rw [he] at h; simp at h
  · rename_i f he; rw [he] at h; exact unifyLoop_mono o c _ _ _ _ _ h k

/-- the closed part: unify the judgements `J` over `n` variables with `c` rounds of fuel, render
variable `tv`, and test the result -/
def chk (c n : Nat) (J : List (Nat × TE)) (tv : Nat) (p : AbiVal → Bool) : Bool :=
  match Unify.unify Unify.idOrders c n (infsOf J) with
  | .error _ => false
  | .ok (f, _, _) =>
    match abiTypeFor (typeOfIn f) 4096 tv [] false with
    | .error _ => false
    | .ok (av, _) => p av

/-- the entries the layout loop makes of one rendered slot -/
def here (w : Nat) : AbiVal → List (Layout.Entry JsonModel.AbiType)
  | .type t => [⟨w, 0, t⟩]
  | .packed ps => ps.map (fun (t, off) => ⟨w, off, t⟩)

/-- `vals` has exactly one constant slot, number `w`, whose type variable is `tv` -/
def OneSlot (vals : List TV) (w tv : Nat) : Prop :=
  ∀ tf, layoutEntries tf 4096 vals =
    match abiTypeFor tf 4096 tv [] false with
    | .error e => .error e
    | .ok (av, _) => .ok (here w av)

/-- the constant slots among registered values, each with its type variable: all that the layout
loop looks at -/
def constSlots (vals : List TV) : List (Nat × Nat) :=
  vals.filterMap fun t => (isConstSlot t).map (·, t.tv)

theorem layoutEntries_none (tf : Nat → Except RErr TE) (fuel : Nat) :
    ∀ vals, constSlots vals = [] → layoutEntries tf fuel vals = .ok []
  | [], _ => rfl
  | t :: vs, h => by
    cases hc : isConstSlot t with
    | none =>
      simp only [constSlots, List.filterMap_cons, hc, Option.map_none] at h
      rw [layoutEntries, hc]
      exact layoutEntries_none tf fuel vs h
    | some w => simp [constSlots, List.filterMap_cons, hc] at h

theorem oneSlot_of : ∀ {vals : List TV} {w tv : Nat}, constSlots vals = [(w, tv)] → OneSlot vals w tv
  | [], _, _, h => nomatch h
  | t :: vs, w, tv, h => by
    intro tf
    cases hc : isConstSlot t with
    | none =>
      simp only [constSlots, List.filterMap_cons, hc, Option.map_none] at h
      rw [layoutEntries, hc]
      exact oneSlot_of h tf
    | some w' =>
      simp only [constSlots, List.filterMap_cons, hc, Option.map_some, List.cons.injEq,
        Prod.mk.injEq] at h
      obtain ⟨⟨rfl, rfl⟩, h⟩ := h
      rw [layoutEntries, hc]
      simp only [layoutEntries_none tf 4096 vs h, List.append_nil]
      cases abiTypeFor tf 4096 t.tv [] false with
      | error e => rfl
      | ok r => cases r.1 <;> rfl

theorem buildLayout_single {α : Type} (e : Layout.Entry α) : Layout.buildLayout [e] = [e] := rfl

/-! ### a plain word -/

def isUInt : AbiVal → Bool
  | .type (.uInt none) => true
  | _ => false

theorem isUInt_eq {av : AbiVal} (h : isUInt av = true) : av = .type (.uInt none) := by
  unfold isUInt at h; split at h <;> simp_all

def lifted1 (w : Nat) : SV := rebuild .storageWrite [] [sSlot (K w), valueV]

def vals1 (w : Nat) : List TV :=
  [.node .knownData [w] [] 0, .node .storageSlot [] [.node .knownData [w] [] 0] 1, .node .callValue [] [] 2,
   .node .storageWrite [] [.node .storageSlot [] [.node .knownData [w] [] 0] 1, .node .callValue [] [] 2] 3]

def J1 : List (Nat × TE) :=
  [(0, .word none .unsignedNumeric), (2, .word none .unsignedNumeric), (1, .equal 2), (2, .equal 1)]

theorem reg1 (w : Nat) : (registerAll [lifted1 w]).values = vals1 w ∧
    (inferAll (registerAll [lifted1 w])).next = 4 ∧ (inferAll (registerAll [lifted1 w])).judgements = J1 := by
  simp [registerAll, lifted1, sSlot, K, mkKnownNat, valueV, rebuild, childSize, nodeCount, nodeCountList,
    register, isStable, vals1, J1, inferAll, applyRules, infer, uword, TV.tv]

/-- the stages put together: lifting (`hl`), registration and rules (`hreg`), the one constant slot
(`hone`), and the closed unification-and-rendering check (`hc`) -/
theorem e2e_av (h : HashCtx) (w fuel c n tv : Nat) (v lifted : SV) (vals : List TV) (J : List (Nat × TE))
    (p : AbiVal → Bool)
    (hl : liftAll h v = .ok lifted)
    (hreg : (registerAll [lifted]).values = vals ∧ (inferAll (registerAll [lifted])).next = n ∧
      (inferAll (registerAll [lifted])).judgements = J)
    (hone : OneSlot vals w tv) (hc : chk c n J tv p = true) :
    ∃ av, p av = true ∧
      (analyse h Unify.idOrders (fuel + c) [v]).outcome = .layout (Layout.buildLayout (here w av)) := by
  rw [analyse_single h _ _ _ _ hl, hreg.1, hreg.2.1, hreg.2.2, Nat.add_comm]
  unfold chk at hc
  split at hc
  · cases hc
  · rename_i f n' r hu
    split at hc
    · cases hc
    · rename_i av seen ha
      refine ⟨av, hc, ?_⟩
      rw [tailOutcome_ok (unify_mono _ _ _ _ _ hu fuel)]
      simp only [hone (typeOfIn f), ha]

theorem e2e (h : HashCtx) (w fuel c n tv : Nat) (v lifted : SV) (vals : List TV) (J : List (Nat × TE))
    (p : AbiVal → Bool) (T : JsonModel.AbiType)
    (hl : liftAll h v = .ok lifted)
    (hreg : (registerAll [lifted]).values = vals ∧ (inferAll (registerAll [lifted])).next = n ∧
      (inferAll (registerAll [lifted])).judgements = J)
    (hone : OneSlot vals w tv) (hc : chk c n J tv p = true) (hp : ∀ av, p av = true → av = .type T) :
    (analyse h Unify.idOrders (fuel + c) [v]).outcome = .layout [⟨w, 0, T⟩] := by
  obtain ⟨av, hpa, ht⟩ := e2e_av h w fuel c n tv v lifted vals J p hl hreg hone hc
  rw [ht, hp av hpa]; rfl

theorem E1 (h : HashCtx) (w : Nat) (hw : h.table w = none) (fuel : Nat) :
    (analyse h Unify.idOrders (fuel + 1) [rebuild .storageWrite [] [K w, valueV]]).outcome =
      .layout [⟨w, 0, .uInt none⟩] :=
  e2e h w fuel 1 4 1 _ _ (vals1 w) J1 isUInt _ (lift_write_K h w hw valueV Inert_valueV) (reg1 w)
    (oneSlot_of rfl) (by decide +kernel) (fun _ => isUInt_eq)

/-! ### a masked address: lifting -/

def andV : SV := rebuild .and_ [] [callerV, K (mask 0 160)]
def subV : SV := rebuild .subWord [0, 160] [callerV]
def pkV : SV := rebuild .packed [0, 160] [subV]

theorem lift_write_masked (h : HashCtx) (w : Nat) (hw : h.table w = none) (hm : h.table (mask 0 160) = none) :
    liftAll h (rebuild .storageWrite [] [K w, andV]) = .ok (rebuild .storageWrite [] [sSlot (K w), pkV]) := by
  have hpre : Her (okPre h) andV := by
    simp only [andV, Her_rebuild]
    refine ⟨okPre_ne h (by decide) (by decide) (by decide), ?_⟩
    intro x hx
    simp only [List.mem_cons, List.mem_nil_iff, or_false] at hx
    rcases hx with rfl | rfl
    · exact Inert_okPre h Inert_callerV
    · exact Her_K_okPre h _ hm
  have hsha : Her (fun k _ _ => k ≠ .sha3) andV := by
    simp only [andV, Her_rebuild]
    refine ⟨by decide, ?_⟩
    intro x hx
    simp only [List.mem_cons, List.mem_nil_iff, or_false] at hx
    rcases hx with rfl | rfl
    · exact Inert_sha3 Inert_callerV
    · exact Her_K (by decide)
  have h3 := stage3_access h (Or.inr rfl) [] (K w) andV (K w) andV (Her_K_okPre h w hw) hpre (unpick_K h w)
    (fun f _ => ima_K f w) (fun f _ => insertMappingAccesses_id f andV hsha)
  have h4 : insertSubWords (cnt (rebuild .storageWrite [] [K w, andV])) (rebuild .storageWrite [] [K w, andV]) =
      .ok (rebuild .storageWrite [] [K w, subV]) := by
    have hc : cnt (rebuild .storageWrite [] [K w, andV]) = 6 := rfl
    have hK : insertSubWords 5 (K w) = .ok (K w) := insertSubWords_id _ _ (Her_K (by decide))
    have hA : insertSubWords 5 andV = .ok subV :=
      (and_mask_is_subword 0 160 (by omega) (by omega) callerV Inert_callerV 4 [] _).1
    rw [hc]
    simp only [rebuild, insertSubWords, mapE, hK, hA]
  have hsubI : ∀ {ok : Kind → List Nat → List SV → Prop}, ok .subWord [0, 160] [callerV] → Her ok callerV → Her ok subV := by
    intro ok h1 h2
    simp only [subV, Her_rebuild]
    exact ⟨h1, fun x hx => by rw [List.mem_singleton.mp hx]; exact h2⟩
  have h5 : stage5 (rebuild .storageWrite [] [K w, subV]) = rebuild .storageWrite [] [K w, subV] := by
    unfold stage5
    apply insertMulShifts_id
    rw [Her_rebuild]
    refine ⟨by decide, ?_⟩
    intro x hx
    simp only [List.mem_cons, List.mem_nil_iff, or_false] at hx
    rcases hx with rfl | rfl
    · exact Her_K (by decide)
    · exact hsubI (by decide) (Her_mono (fun _ _ _ hh => hh.2) _ (Inert_okMid Inert_callerV))
  have h6 : liftPacked (cnt (rebuild .storageWrite [] [K w, subV])) (rebuild .storageWrite [] [K w, subV]) =
      .ok (rebuild .storageWrite [] [K w, pkV]) := by
    have hc : cnt (rebuild .storageWrite [] [K w, subV]) = 5 := rfl
    rw [hc]
    rfl
  have hpkI : ∀ {ok : Kind → List Nat → List SV → Prop}, ok .packed [0, 160] [subV] →
      ok .subWord [0, 160] [callerV] → Her ok callerV → Her ok pkV := by
    intro ok h0 h1 h2
    simp only [pkV, Her_rebuild]
    exact ⟨h0, fun x hx => by rw [List.mem_singleton.mp hx]; exact hsubI h1 h2⟩
  rw [liftAll_eq, h3, h4]
  simp only [h5, h6]
  rw [stage9_access (Or.inr rfl) [] (K w) pkV (K w) pkV (K w) pkV (fun f _ => lda_K f w)
      (fun f _ => liftDynArray_id f pkV (hpkI (by decide) (by decide) (Inert_sha3 Inert_callerV)))
      (by simp [K, mkKnownNat, SV.kind])
      (fun f _ => iss_K f w)
      (fun f _ => insertStorageSlots_id f pkV (hpkI (by decide) (by decide) (Inert_slots Inert_callerV)))
      (Her_K (fun hh => by cases hh))
      (hpkI (fun hh => by cases hh) (fun hh => by cases hh) (Inert_ok9 Inert_callerV))]


/-! ### an address -/

def isAddr : AbiVal → Bool
  | .type .address => true
  | _ => false

theorem isAddr_eq {av : AbiVal} (h : isAddr av = true) : av = .type .address := by
  unfold isAddr at h; split at h <;> simp_all

abbrev tK (w : Nat) : TV := .node .knownData [w] [] 0
abbrev tS (w : Nat) : TV := .node .storageSlot [] [tK w] 1

def vals2u (w : Nat) : List TV :=
  [tK w, tS w, .node .caller [] [] 2, .node .storageWrite [] [tS w, .node .caller [] [] 2] 3]

def J2u : List (Nat × TE) :=
  [(0, .word none .unsignedNumeric), (2, .word (some 160) .address), (1, .equal 2), (2, .equal 1)]

theorem reg2u (w : Nat) : (registerAll [rebuild .storageWrite [] [sSlot (K w), callerV]]).values = vals2u w ∧
    (inferAll (registerAll [rebuild .storageWrite [] [sSlot (K w), callerV]])).next = 4 ∧
    (inferAll (registerAll [rebuild .storageWrite [] [sSlot (K w), callerV]])).judgements = J2u := by
  simp [registerAll, sSlot, K, mkKnownNat, callerV, rebuild, childSize, nodeCount, nodeCountList,
    register, isStable, vals2u, J2u, inferAll, applyRules, infer, uword, address, TV.tv]

/-- `sstore(w, caller)` -/
theorem E2_unmasked (h : HashCtx) (w : Nat) (hw : h.table w = none) (fuel : Nat) :
    (analyse h Unify.idOrders (fuel + 1) [rebuild .storageWrite [] [K w, callerV]]).outcome =
      .layout [⟨w, 0, .address⟩] :=
  e2e h w fuel 1 4 1 _ _ (vals2u w) J2u isAddr _ (lift_write_K h w hw callerV Inert_callerV) (reg2u w)
    (oneSlot_of rfl) (by decide +kernel) (fun _ => isAddr_eq)

def tSub : TV := .node .subWord [0, 160] [.node .caller [] [] 2] 3
def tPk : TV := .node .packed [0, 160] [tSub] 4

def vals2 (w : Nat) : List TV :=
  [tK w, tS w, .node .caller [] [] 2, tSub, tPk, .node .storageWrite [] [tS w, tPk] 5]

def J2 : List (Nat × TE) :=
  [(0, .word none .unsignedNumeric), (2, .word (some 160) .address), (3, .word (some 160) .bytes),
   (2, .packed [⟨3, 0, 160⟩] false), (4, .packed [⟨3, 0, 160⟩] false), (1, .equal 4), (4, .equal 1)]

theorem reg2 (w : Nat) : (registerAll [rebuild .storageWrite [] [sSlot (K w), pkV]]).values = vals2 w ∧
    (inferAll (registerAll [rebuild .storageWrite [] [sSlot (K w), pkV]])).next = 6 ∧
    (inferAll (registerAll [rebuild .storageWrite [] [sSlot (K w), pkV]])).judgements = J2 := by
  simp [registerAll, sSlot, K, mkKnownNat, callerV, pkV, subV, rebuild, childSize, nodeCount, nodeCountList,
    register, isStable, vals2, J2, tSub, tPk, inferAll, applyRules, applyRules.spansOf, infer, uword, address,
    bytesN, TV.tv]

/-- `sstore(w, caller & (2^160 - 1))`.  Besides `hw` the mask constant itself must not be a
recognised slot hash (`hm`): see `E2_needs_hm`. -/
theorem E2_partial (h : HashCtx) (w : Nat) (hw : h.table w = none) (hm : h.table (mask 0 160) = none)
    (fuel : Nat) :
    (analyse h Unify.idOrders (fuel + 3)
      [rebuild .storageWrite [] [K w, rebuild .and_ [] [callerV, K (mask 0 160)]]]).outcome =
      .layout [⟨w, 0, .address⟩] :=
  e2e h w fuel 3 6 1 _ _ (vals2 w) J2 isAddr _ (lift_write_masked h w hw hm) (reg2 w)
    (oneSlot_of rfl) (by decide +kernel) (fun _ => isAddr_eq)


/-! ### mappings -/

def isMapAU : AbiVal → Bool
  | .type (.mapping .address (.uInt none)) => true
  | _ => false

theorem isMapAU_eq {av : AbiVal} (h : isMapAU av = true) : av = .type (.mapping .address (.uInt none)) := by
  unfold isMapAU at h; split at h <;> simp_all

def tM3 (w : Nat) : TV := .node .mappingIndex [0] [tS w, .node .caller [] [] 2] 3
def tMS3 (w : Nat) : TV := .node .storageSlot [] [tM3 w] 4

def vals3 (w : Nat) : List TV :=
  [tK w, tS w, .node .caller [] [] 2, tM3 w, tMS3 w, .node .callValue [] [] 5,
   .node .storageWrite [] [tMS3 w, .node .callValue [] [] 5] 6]

def J3 : List (Nat × TE) :=
  [(0, .word none .unsignedNumeric), (2, .word (some 160) .address), (3, .word none .unsignedNumeric),
   (7, .packed [⟨4, 0, 256⟩] false), (1, .mapping 2 7), (5, .word none .unsignedNumeric),
   (4, .equal 5), (5, .equal 4)]

def lifted3 (w : Nat) : SV := rebuild .storageWrite [] [sSlot (mapIdxS [callerV] (K w)), valueV]

theorem reg3 (w : Nat) : (registerAll [lifted3 w]).values = vals3 w ∧
    (inferAll (registerAll [lifted3 w])).next = 8 ∧
    (inferAll (registerAll [lifted3 w])).judgements = J3 := by
  simp [registerAll, lifted3, mapIdxS, mIdx, sSlot, K, mkKnownNat, callerV, valueV, rebuild, childSize, nodeCount,
    nodeCountList, register, isStable, vals3, J3, tM3, tMS3, inferAll, applyRules, infer, uword,
    address, TV.tv]

/-- `m[caller] = callvalue` for the mapping `m` at slot `w` (key `keccak(caller . w)`) -/
theorem E3 (h : HashCtx) (w : Nat) (hw : h.table w = none) (fuel : Nat) :
    (analyse h Unify.idOrders (fuel + 1) [rebuild .storageWrite [] [mapKey [callerV] (K w), valueV]]).outcome =
      .layout [⟨w, 0, .mapping .address (.uInt none)⟩] :=
  e2e h w fuel 1 8 1 _ _ (vals3 w) J3 isMapAU _
    (mapping_write_lifted_eq h w hw [callerV] (fun k hk => by rw [List.mem_singleton.mp hk]; exact Inert_callerV)
      valueV Inert_valueV)
    (reg3 w) (oneSlot_of rfl) (by decide +kernel) (fun _ => isMapAU_eq)

def isMapUA : AbiVal → Bool
  | .type (.mapping (.uInt none) .address) => true
  | _ => false

theorem isMapUA_eq {av : AbiVal} (h : isMapUA av = true) : av = .type (.mapping (.uInt none) .address) := by
  unfold isMapUA at h; split at h <;> simp_all

def tM3w (w : Nat) : TV := .node .mappingIndex [0] [tS w, .node .callValue [] [] 2] 3
def tMS3w (w : Nat) : TV := .node .storageSlot [] [tM3w w] 4

def vals3w (w : Nat) : List TV :=
  [tK w, tS w, .node .callValue [] [] 2, tM3w w, tMS3w w, .node .caller [] [] 5,
   .node .storageWrite [] [tMS3w w, .node .caller [] [] 5] 6]

def J3w : List (Nat × TE) :=
  [(0, .word none .unsignedNumeric), (2, .word none .unsignedNumeric), (3, .word none .unsignedNumeric),
   (7, .packed [⟨4, 0, 256⟩] false), (1, .mapping 2 7), (5, .word (some 160) .address),
   (4, .equal 5), (5, .equal 4)]

def lifted3w (w : Nat) : SV := rebuild .storageWrite [] [sSlot (mapIdxS [valueV] (K w)), callerV]

theorem reg3w (w : Nat) : (registerAll [lifted3w w]).values = vals3w w ∧
    (inferAll (registerAll [lifted3w w])).next = 8 ∧
    (inferAll (registerAll [lifted3w w])).judgements = J3w := by
  simp [registerAll, lifted3w, mapIdxS, mIdx, sSlot, K, mkKnownNat, callerV, valueV, rebuild, childSize, nodeCount,
    nodeCountList, register, isStable, vals3w, J3w, tM3w, tMS3w, inferAll, applyRules, infer, uword,
    address, TV.tv]

/-! ### dynamic arrays -/

def isDynA : AbiVal → Bool
  | .type (.dynArray .address) => true
  | _ => false

theorem isDynA_eq {av : AbiVal} (h : isDynA av = true) : av = .type (.dynArray .address) := by
  unfold isDynA at h; split at h <;> simp_all

def tD4 (w : Nat) : TV := .node .dynamicArrayIndex [] [tS w, .node .callValue [] [] 2] 3
def tDS4 (w : Nat) : TV := .node .storageSlot [] [tD4 w] 4

def vals4 (w : Nat) : List TV :=
  [tK w, tS w, .node .callValue [] [] 2, tD4 w, tDS4 w, .node .caller [] [] 5,
   .node .storageWrite [] [tDS4 w, .node .caller [] [] 5] 6]

def J4 : List (Nat × TE) :=
  [(0, .word none .unsignedNumeric), (2, .word none .unsignedNumeric), (3, .word none .unsignedNumeric),
   (5, .word (some 160) .address), (4, .equal 5), (5, .equal 4), (4, .equal 5),
   (2, .word none .unsignedNumeric), (1, .dynamicArray 4)]

def lifted4 (w : Nat) : SV :=
  rebuild .storageWrite [] [rebuild .storageSlot [] [rebuild .dynamicArrayIndex [] [rebuild .storageSlot [] [K w], valueV]], callerV]

theorem reg4 (w : Nat) : (registerAll [lifted4 w]).values = vals4 w ∧
    (inferAll (registerAll [lifted4 w])).next = 7 ∧
    (inferAll (registerAll [lifted4 w])).judgements = J4 := by
  simp [registerAll, lifted4, K, mkKnownNat, callerV, valueV, rebuild, childSize, nodeCount,
    nodeCountList, register, isStable, vals4, J4, tD4, tDS4, inferAll, applyRules, infer, uword,
    address, TV.tv, TV.kind]

/-- `a[callvalue] = caller` for the dynamic array `a` at slot `w` (key `keccak(w) + callvalue`) -/
theorem E4 (h : HashCtx) (w : Nat) (hw : h.table w = none) (fuel : Nat) :
    (analyse h Unify.idOrders (fuel + 1) [rebuild .storageWrite [] [dynKey w valueV, callerV]]).outcome =
      .layout [⟨w, 0, .dynArray .address⟩] :=
  e2e h w fuel 1 7 1 _ _ (vals4 w) J4 isDynA _
    ((dyn_array_lifted h w hw valueV Inert_valueV (dynKey w valueV) (Or.inl rfl)).2.2 callerV Inert_callerV)
    (reg4 w) (oneSlot_of rfl) (by decide +kernel) (fun _ => isDynA_eq)


/-! ### the fuel bounds are the least ones -/

def chkOOF (c n : Nat) (J : List (Nat × TE)) : Bool :=
  match Unify.unify Unify.idOrders c n (infsOf J) with
  | .error .outOfFuel => true
  | _ => false

theorem e2e_oof (h : HashCtx) (c n : Nat) (v lifted : SV) (J : List (Nat × TE))
    (hl : liftAll h v = .ok lifted)
    (hreg : (inferAll (registerAll [lifted])).next = n ∧ (inferAll (registerAll [lifted])).judgements = J)
    (hc : chkOOF c n J = true) :
    (analyse h Unify.idOrders c [v]).outcome = .unifyFault .outOfFuel := by
  rw [analyse_single h _ _ _ _ hl, hreg.1, hreg.2]
  unfold chkOOF at hc
  split at hc
  · rename_i hu; exact tailOutcome_error hu _
  · cases hc

theorem E1_fuel0 (h : HashCtx) (w : Nat) (hw : h.table w = none) :
    (analyse h Unify.idOrders 0 [rebuild .storageWrite [] [K w, valueV]]).outcome = .unifyFault .outOfFuel :=
  e2e_oof h 0 4 _ _ J1 (lift_write_K h w hw valueV Inert_valueV) (reg1 w).2 (by decide +kernel)

theorem E2_fuel2 (h : HashCtx) (w : Nat) (hw : h.table w = none) (hm : h.table (mask 0 160) = none) :
    (analyse h Unify.idOrders 2
      [rebuild .storageWrite [] [K w, rebuild .and_ [] [callerV, K (mask 0 160)]]]).outcome =
      .unifyFault .outOfFuel :=
  e2e_oof h 2 6 _ _ J2 (lift_write_masked h w hw hm) (reg2 w).2 (by decide +kernel)

theorem E3_fuel0 (h : HashCtx) (w : Nat) (hw : h.table w = none) :
    (analyse h Unify.idOrders 0 [rebuild .storageWrite [] [mapKey [callerV] (K w), valueV]]).outcome =
      .unifyFault .outOfFuel :=
  e2e_oof h 0 8 _ _ J3
    (mapping_write_lifted_eq h w hw [callerV] (fun k hk => by rw [List.mem_singleton.mp hk]; exact Inert_callerV)
      valueV Inert_valueV) (reg3 w).2 (by decide +kernel)

theorem E4_fuel0 (h : HashCtx) (w : Nat) (hw : h.table w = none) :
    (analyse h Unify.idOrders 0 [rebuild .storageWrite [] [dynKey w valueV, callerV]]).outcome =
      .unifyFault .outOfFuel :=
  e2e_oof h 0 7 _ _ J4
    ((dyn_array_lifted h w hw valueV Inert_valueV (dynKey w valueV) (Or.inl rfl)).2.2 callerV Inert_callerV)
    (reg4 w).2 (by decide +kernel)

/-! ### `E2_partial` without `hm`: the mask constant may itself be a recognised slot hash -/

def hBad : HashCtx := ⟨fun x => if x = mask 0 160 then some 0 else none, fun _ => 0⟩

def isBytes5 : Outcome → Bool
  | .layout [⟨5, 0, .bytes none⟩] => true
  | _ => false

theorem isBytes5_eq {o : Outcome} (h : isBytes5 o = true) : o = .layout [⟨5, 0, .bytes none⟩] := by
  unfold isBytes5 at h; split at h <;> simp_all

/-- the counterexample to `E2_partial` without `hm`: slot 5, and a table that
recognises `2^160 - 1` as the hash of slot 0; the stored value stays an `and`, typed `bytes` -/
theorem E2_needs_hm : hBad.table 5 = none ∧
    (analyse hBad Unify.idOrders (0 + 3)
      [rebuild .storageWrite [] [K 5, rebuild .and_ [] [callerV, K (mask 0 160)]]]).outcome =
      .layout [⟨5, 0, .bytes none⟩] ∧
    (analyse hBad Unify.idOrders (0 + 3)
      [rebuild .storageWrite [] [K 5, rebuild .and_ [] [callerV, K (mask 0 160)]]]).outcome ≠
      .layout [⟨5, 0, .address⟩] := by
  have h1 : (analyse hBad Unify.idOrders (0 + 3)
      [rebuild .storageWrite [] [K 5, rebuild .and_ [] [callerV, K (mask 0 160)]]]).outcome =
      .layout [⟨5, 0, .bytes none⟩] := isBytes5_eq (by decide +kernel)
  refine ⟨by decide +kernel, h1, ?_⟩
  rw [h1]; intro hh; cases hh


/-! ### a mapping of depth 2 -/

def isMapAAU : AbiVal → Bool
  | .type (.mapping .address (.mapping .address (.uInt none))) => true
  | _ => false

theorem isMapAAU_eq {av : AbiVal} (h : isMapAAU av = true) :
    av = .type (.mapping .address (.mapping .address (.uInt none))) := by
  unfold isMapAAU at h; split at h <;> simp_all

def tM5 (w : Nat) : TV := .node .mappingIndex [0] [tMS3 w, .node .caller [] [] 5] 6
def tMS5 (w : Nat) : TV := .node .storageSlot [] [tM5 w] 7

def vals5 (w : Nat) : List TV :=
  [tK w, tS w, .node .caller [] [] 2, tM3 w, tMS3 w, .node .caller [] [] 5, tM5 w, tMS5 w,
   .node .callValue [] [] 8, .node .storageWrite [] [tMS5 w, .node .callValue [] [] 8] 9]

def J5 : List (Nat × TE) :=
  [(0, .word none .unsignedNumeric), (2, .word (some 160) .address), (3, .word none .unsignedNumeric),
   (10, .packed [⟨4, 0, 256⟩] false), (1, .mapping 2 10), (5, .word (some 160) .address),
   (6, .word none .unsignedNumeric), (11, .packed [⟨7, 0, 256⟩] false), (4, .mapping 5 11),
   (8, .word none .unsignedNumeric), (7, .equal 8), (8, .equal 7)]

def lifted5 (w : Nat) : SV := rebuild .storageWrite [] [sSlot (mapIdxS [callerV, callerV] (K w)), valueV]

theorem reg5 (w : Nat) : (registerAll [lifted5 w]).values = vals5 w ∧
    (inferAll (registerAll [lifted5 w])).next = 12 ∧
    (inferAll (registerAll [lifted5 w])).judgements = J5 := by
  simp [registerAll, lifted5, mapIdxS, mIdx, sSlot, K, mkKnownNat, callerV, valueV, rebuild, childSize, nodeCount,
    nodeCountList, register, isStable, vals5, J5, tM3, tMS3, tM5, tMS5, inferAll, applyRules,
    infer, uword, address, TV.tv]

/-! ### two fields packed into one word -/

def p160 : Nat := 2 ^ 160
def and64 : SV := rebuild .and_ [] [valueV, K (mask 0 64)]
def sub64 : SV := rebuild .subWord [0, 64] [valueV]
/-- `(caller & (2^160-1)) | ((callvalue & (2^64-1)) * 2^160)` -/
def fieldsV : SV := rebuild .or_ [] [andV, rebuild .multiply [] [and64, K p160]]
def fields4 : SV := rebuild .or_ [] [subV, rebuild .multiply [] [sub64, K p160]]
def fields5 : SV := rebuild .or_ [] [subV, rebuild .shifted [160] [sub64]]
def pk2V : SV := rebuild .packed [0, 160, 160, 64] [subV, sub64]

theorem wp160 : whichPowerOf2 p160 = some 160 := by decide +kernel

theorem lift_write_fields (h : HashCtx) (w : Nat) (hw : h.table w = none) (hm : h.table (mask 0 160) = none)
    (hm64 : h.table (mask 0 64) = none) (hp : h.table p160 = none) :
    liftAll h (rebuild .storageWrite [] [K w, fieldsV]) = .ok (rebuild .storageWrite [] [sSlot (K w), pk2V]) := by
  have h4 : insertSubWords (cnt (rebuild .storageWrite [] [K w, fieldsV])) (rebuild .storageWrite [] [K w, fieldsV]) =
      .ok (rebuild .storageWrite [] [K w, fields4]) := by
    have hc : cnt (rebuild .storageWrite [] [K w, fieldsV]) = 12 := rfl
    have hK : insertSubWords 11 (K w) = .ok (K w) := insertSubWords_id _ _ (Her_K (by decide))
    have hKp : insertSubWords 9 (K p160) = .ok (K p160) := insertSubWords_id _ _ (Her_K (by decide))
    have hA : insertSubWords 10 andV = .ok subV :=
      (and_mask_is_subword 0 160 (by omega) (by omega) callerV Inert_callerV 9 [] _).1
    have hB : insertSubWords 9 and64 = .ok sub64 :=
      (and_mask_is_subword 0 64 (by omega) (by omega) valueV Inert_valueV 8 [] _).1
    rw [hc]
    simp only [fieldsV, fields4, rebuild, insertSubWords, mapE, hK, hA, hB, hKp]
  have hpre : Her (okPre h) fieldsV := by
    simp [fieldsV, andV, and64, valueV, callerV, rebuild, K, mkKnownNat, Her, HerL, okPre, ok1, childSize, hm, hm64, hp]
  have hsha : Her (fun k _ _ => k ≠ .sha3) fieldsV := by
    simp [fieldsV, andV, and64, valueV, callerV, rebuild, K, mkKnownNat, Her, HerL, childSize]
  have h3 := stage3_access h (Or.inr rfl) [] (K w) fieldsV (K w) fieldsV (Her_K_okPre h w hw) hpre (unpick_K h w)
    (fun f _ => ima_K f w) (fun f _ => insertMappingAccesses_id f fieldsV hsha)
  have h5 : stage5 (rebuild .storageWrite [] [K w, fields4]) = rebuild .storageWrite [] [K w, fields5] := by
    have hc : cnt (rebuild .storageWrite [] [K w, fields4]) = 10 := rfl
    unfold stage5
    rw [hc]
    simp [fields4, fields5, subV, sub64, valueV, callerV, K, mkKnownNat, rebuild, insertMulShifts, fold, foldList, foldNode,
      knownBin, knownUn, knownOf, SV.kind, wp160, childSize]
  have h6 : liftPacked (cnt (rebuild .storageWrite [] [K w, fields5])) (rebuild .storageWrite [] [K w, fields5]) =
      .ok (rebuild .storageWrite [] [K w, pk2V]) := by
    have hc : cnt (rebuild .storageWrite [] [K w, fields5]) = 9 := rfl
    rw [hc]
    rfl
  have hd7 : Her (fun k _ _ => k ≠ .sha3) pk2V := by
    simp [pk2V, subV, sub64, valueV, callerV, rebuild, Her, HerL, childSize]
  have hd8 : Her (fun k _ _ => k ≠ .mappingIndex ∧ k ≠ .storageWrite ∧ k ≠ .dynamicArrayIndex ∧ k ≠ .sLoad) pk2V := by
    simp [pk2V, subV, sub64, valueV, callerV, rebuild, Her, HerL, childSize]
  have hd9 : Her ok9 pk2V := by
    simp [pk2V, subV, sub64, valueV, callerV, rebuild, Her, HerL, childSize, ok9]
  rw [liftAll_eq, h3, h4]
  simp only [h5, h6]
  rw [stage9_access (Or.inr rfl) [] (K w) pk2V (K w) pk2V (K w) pk2V (fun f _ => lda_K f w)
      (fun f _ => liftDynArray_id f pk2V hd7) (by simp [K, mkKnownNat, SV.kind])
      (fun f _ => iss_K f w) (fun f _ => insertStorageSlots_id f pk2V hd8)
      (Her_K (fun hh => by cases hh)) hd9]


def isPk2 : AbiVal → Bool
  | .packed [(.address, 0), (.bytes (some 8), 160)] => true
  | _ => false

theorem isPk2_eq {av : AbiVal} (h : isPk2 av = true) : av = .packed [(.address, 0), (.bytes (some 8), 160)] := by
  unfold isPk2 at h; split at h <;> simp_all

def tSub64 : TV := .node .subWord [0, 64] [.node .callValue [] [] 4] 5
def tPk2 : TV := .node .packed [0, 160, 160, 64] [tSub, tSub64] 6

def vals6 (w : Nat) : List TV :=
  [tK w, tS w, .node .caller [] [] 2, tSub, .node .callValue [] [] 4, tSub64, tPk2,
   .node .storageWrite [] [tS w, tPk2] 7]

def J6 : List (Nat × TE) :=
  [(0, .word none .unsignedNumeric), (2, .word (some 160) .address), (3, .word (some 160) .bytes),
   (2, .packed [⟨3, 0, 160⟩] false), (4, .word none .unsignedNumeric), (5, .word (some 64) .bytes),
   (4, .packed [⟨5, 0, 64⟩] false), (6, .packed [⟨3, 0, 160⟩, ⟨5, 160, 64⟩] false), (1, .equal 6), (6, .equal 1)]

theorem reg6 (w : Nat) : (registerAll [rebuild .storageWrite [] [sSlot (K w), pk2V]]).values = vals6 w ∧
    (inferAll (registerAll [rebuild .storageWrite [] [sSlot (K w), pk2V]])).next = 8 ∧
    (inferAll (registerAll [rebuild .storageWrite [] [sSlot (K w), pk2V]])).judgements = J6 := by
  simp [registerAll, sSlot, K, mkKnownNat, callerV, valueV, pk2V, subV, sub64, rebuild, childSize, nodeCount, nodeCountList,
    register, isStable, vals6, J6, tSub, tSub64, tPk2, inferAll, applyRules, applyRules.spansOf, infer, uword, address,
    bytesN, TV.tv]

/-! ### the shapes, and the theorems at one concrete slot -/

example : callerV = rebuild .caller [] [] := rfl
example : mapKey [callerV] (K 5) = rebuild .sha3 [] [rebuild .concat [] [callerV, K 5]] := rfl
example : dynKey 5 valueV = rebuild .add [] [rebuild .sha3 [] [K 5], valueV] := rfl
example : mask 0 160 = 2 ^ 160 - 1 := by decide +kernel

def h0 : HashCtx := ⟨fun _ => none, fun _ => 0⟩

example : (analyse h0 Unify.idOrders 1 [rebuild .storageWrite [] [K 5, valueV]]).outcome =
    .layout [⟨5, 0, .uInt none⟩] := E1 h0 5 rfl 0
example : (analyse h0 Unify.idOrders 3
    [rebuild .storageWrite [] [K 5, rebuild .and_ [] [callerV, K (mask 0 160)]]]).outcome =
    .layout [⟨5, 0, .address⟩] := E2_partial h0 5 rfl rfl 0
example : (analyse h0 Unify.idOrders 1 [rebuild .storageWrite [] [K 5, callerV]]).outcome =
    .layout [⟨5, 0, .address⟩] := E2_unmasked h0 5 rfl 0
example : (analyse h0 Unify.idOrders 1 [rebuild .storageWrite [] [mapKey [callerV] (K 5), valueV]]).outcome =
    .layout [⟨5, 0, .mapping .address (.uInt none)⟩] := E3 h0 5 rfl 0
example : (analyse h0 Unify.idOrders 1 [rebuild .storageWrite [] [dynKey 5 valueV, callerV]]).outcome =
    .layout [⟨5, 0, .dynArray .address⟩] := E4 h0 5 rfl 0

end SLE.IdiomsE2E

