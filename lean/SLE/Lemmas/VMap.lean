import SLE.Model.Containers
/-! Helper lemmas: `VMap` refines a partial function `Nat → Option V`. -/
namespace SLE.Containers.VMap
variable {V : Type}

theorem padTo_length (l : List (Option V)) (k : Nat) : k < (padTo l k).length := by
  simp [padTo]; omega

theorem padTo_get_join (l : List (Option V)) (k i : Nat) :
    ((padTo l k)[i]?).join = (l[i]?).join := by
  unfold padTo
  by_cases h : i < l.length
  · rw [List.getElem?_append_left h]
  · rw [List.getElem?_append_right (by omega), List.getElem?_eq_none (Nat.le_of_not_lt h),
      List.getElem?_replicate]
    split <;> rfl

theorem countSome_append (a b : List (Option V)) : countSome (a ++ b) = countSome a + countSome b := by
  induction a with
  | nil => simp [countSome]
  | cons x a ih => cases x <;> simp [countSome, ih] <;> omega

theorem countSome_replicate_none (n : Nat) : countSome (List.replicate n (none : Option V)) = 0 := by
  induction n with
  | zero => rfl
  | succ n ih => simp [List.replicate_succ, countSome, ih]

theorem countSome_padTo (l : List (Option V)) (k : Nat) : countSome (padTo l k) = countSome l := by
  simp [padTo, countSome_append, countSome_replicate_none]

theorem countSome_set_some (l : List (Option V)) (k : Nat) (v : V) (h : k < l.length) :
    countSome (l.set k (some v)) = if ((l[k]?).join).isSome then countSome l else countSome l + 1 := by
  induction l generalizing k with
  | nil => simp at h
  | cons x l ih =>
    cases k with
    | zero => cases x <;> simp [countSome]
    | succ k =>
      have h' : k < l.length := by simpa using h
      have := ih k h'
      cases x <;> simp [countSome, this] <;> split <;> simp

theorem countSome_set_none (l : List (Option V)) (k : Nat) (v : V)
    (hv : (l[k]?).join = some v) : countSome (l.set k none) + 1 = countSome l := by
  induction l generalizing k with
  | nil => simp at hv
  | cons x l ih =>
    cases k with
    | zero =>
      simp at hv; subst hv; simp [countSome]
    | succ k =>
      have hv' : (l[k]?).join = some v := by simpa using hv
      have := ih k hv'
      cases x <;> simp [countSome] <;> omega

theorem get_insert (m : VMap V) (k : Nat) (v : V) (i : Nat) :
    (m.insert k v).get i = if i = k then some v else m.get i := by
  unfold insert get
  simp only []
  have hk := padTo_length m.data k
  by_cases h : i = k
  · subst h; simp [hk]
  · have h' : ¬ k = i := fun e => h e.symm
    simp only [h, if_false]
    rw [List.getElem?_set]
    simp only [h', if_false]
    exact padTo_get_join _ _ _

theorem get_none_of_ge (m : VMap V) {k : Nat} (h : m.data.length ≤ k) : m.get k = none := by
  unfold get
  rw [List.getElem?_eq_none h]; rfl

theorem get_some_lt {m : VMap V} {k : Nat} (h : (m.get k).isSome) : k < m.data.length :=
  Nat.lt_of_not_le (fun hk => by rw [get_none_of_ge m hk] at h; cases h)

/-! `remove` on an absent and on a present key -/

theorem remove_of_get_none {m : VMap V} {k : Nat} (h : m.get k = none) :
    m.remove k = .ok (m, none) := by
  unfold remove
  split
  · rw [show (m.data[k]?).join = none from h]
  · rfl

theorem remove_of_get_some {m : VMap V} {k : Nat} {v : V} (h : m.get k = some v) :
    m.remove k = if m.size = 0 then .error .sizeUnderflow
      else .ok ({ data := m.data.set k none, size := m.size - 1 }, some v) := by
  unfold remove
  rw [if_pos (get_some_lt (by rw [h]; rfl)), show (m.data[k]?).join = some v from h]

theorem get_set_none (m : VMap V) (k s i : Nat) :
    (⟨m.data.set k none, s⟩ : VMap V).get i = if i = k then none else m.get i := by
  unfold get
  rw [List.getElem?_set]
  by_cases hi : k = i
  · rw [if_pos hi, if_pos hi.symm]; split <;> rfl
  · rw [if_neg hi, if_neg (Ne.symm hi)]

/-- `remove` returns the old binding and deletes exactly that key. -/
theorem get_remove (m m' : VMap V) (k : Nat) (r : Option V) (h : m.remove k = .ok (m', r)) (i : Nat) :
    r = m.get k ∧ m'.get i = if i = k then none else m.get i := by
  cases hv : m.get k with
  | none =>
    rw [remove_of_get_none hv] at h
    injection h with h; injection h with h1 h2; subst h1 h2
    refine ⟨rfl, ?_⟩
    split
    · rename_i hi; rw [hi, hv]
    · rfl
  | some v =>
    rw [remove_of_get_some hv] at h
    split at h
    · cases h
    · injection h with h; injection h with h1 h2; subst h1 h2
      exact ⟨rfl, get_set_none m k _ i⟩

theorem wf_empty : WF (empty : VMap V) := by simp [WF, empty, countSome]

theorem wf_insert (m : VMap V) (k : Nat) (v : V) (h : WF m) : WF (m.insert k v) := by
  unfold WF insert at *
  simp only []
  rw [countSome_set_some _ _ _ (padTo_length _ _), countSome_padTo, h]

/-- With the invariant, the overflow-checked `size -= 1` of `remove` can never fault. -/
theorem remove_no_fault (m : VMap V) (k : Nat) (h : WF m) : ∃ r, m.remove k = .ok r := by
  cases hv : m.get k with
  | none => exact ⟨_, remove_of_get_none hv⟩
  | some v =>
    have := countSome_set_none m.data k v hv
    rw [remove_of_get_some hv, if_neg (by unfold WF at h; omega)]
    exact ⟨_, rfl⟩

theorem wf_remove (m m' : VMap V) (k : Nat) (r : Option V) (h : WF m)
    (hr : m.remove k = .ok (m', r)) : WF m' := by
  cases hv : m.get k with
  | none =>
    rw [remove_of_get_none hv] at hr
    injection hr with hr; injection hr with h1 _; subst h1; exact h
  | some v =>
    rw [remove_of_get_some hv] at hr
    split at hr
    · cases hr
    · injection hr with hr; injection hr with h1 _; subst h1
      have := countSome_set_none m.data k v hv
      unfold WF at *; simp only []; omega

/-- `remove` under the invariant: it succeeds, returns the old binding, deletes exactly that key
and keeps the invariant. -/
theorem remove_spec (m : VMap V) (k : Nat) (h : WF m) :
    ∃ m', m.remove k = .ok (m', m.get k) ∧ WF m' ∧
      ∀ i, m'.get i = if i = k then none else m.get i := by
  obtain ⟨⟨m', r⟩, hr⟩ := remove_no_fault m k h
  have hg := get_remove m m' k r hr
  rw [(hg k).1] at hr
  exact ⟨m', hr, wf_remove m m' k _ h hr, fun i => (hg i).2⟩

/-- Position `i ≥ n` of `x :: l`, counted from `n`: the head, or a position of `l` from `n + 1`. -/
theorem cons_get_join (x : Option V) (l : List (Option V)) (n i : Nat) (v : V) :
    (n ≤ i ∧ ((x :: l)[i - n]?).join = some v) ↔
      (i = n ∧ x = some v) ∨ (n + 1 ≤ i ∧ (l[i - (n + 1)]?).join = some v) := by
  by_cases hi : i = n
  · subst hi
    rw [Nat.sub_self]
    exact ⟨fun h => .inl ⟨rfl, h.2⟩, fun h => h.elim (fun h => ⟨Nat.le_refl _, h.2⟩)
      (fun h => absurd h.1 (by omega))⟩
  · have hs : n ≤ i → i - n = (i - (n + 1)) + 1 := fun _ => by omega
    exact ⟨fun h => .inr ⟨by omega, by have := h.2; rw [hs h.1] at this; exact this⟩,
      fun h => h.elim (fun h => absurd h.1 hi)
        (fun h => ⟨by omega, by rw [hs (by omega)]; exact h.2⟩)⟩

theorem mem_iterFrom (l : List (Option V)) (n i : Nat) (v : V) :
    (i, v) ∈ iterFrom n l ↔ n ≤ i ∧ (l[i - n]?).join = some v := by
  induction l generalizing n with
  | nil => simp [iterFrom]
  | cons x l ih =>
    rw [cons_get_join]
    cases x with
    | none =>
      rw [iterFrom, ih]
      exact ⟨.inr, fun h => h.elim (fun h => nomatch h.2) id⟩
    | some w =>
      rw [iterFrom, List.mem_cons, ih, Prod.mk.injEq, Option.some.injEq, eq_comm (a := w)]

/-- `iter` enumerates exactly the bindings. -/
theorem mem_iter (m : VMap V) (i : Nat) (v : V) : (i, v) ∈ m.iter ↔ m.get i = some v := by
  simp [iter, mem_iterFrom, get]

theorem length_iterFrom (l : List (Option V)) (n : Nat) : (iterFrom n l).length = countSome l := by
  induction l generalizing n with
  | nil => rfl
  | cons x l ih => cases x <;> simp [iterFrom, countSome, ih]

/-- `len` is the number of bindings. -/
theorem len_eq_iter_length (m : VMap V) (h : WF m) : m.len = m.iter.length := by
  simp [len, iter, length_iterFrom]; exact h

end SLE.Containers.VMap
