import SLE.Model.TC
/-!
The sixteen rules as data.  `applyRules st v` appends the judgements `emitted st.next v`, in that order,
and advances the counter by `fresh v` (one variable, for a mapping access): `applyRules_eq`.  What the
rules do under a renaming, and which variables they mention, is then read off the list.

The two widths the rules compute from constants, `Rename.sxWidth` and `Rename.cdWidth`, are defined here
because `kidRules` uses them, and under `SLE.Rename` because they are the only places where a renaming
of constants can change a judgement: the side condition `Rename.SafeFor` is stated with them.
-/
namespace SLE.TC
open SLE SLE.SV

/-! ### `infer` -/

@[simp] theorem infer_next (st : RegState) (v : Nat) (e : TE) : (infer st v e).next = st.next := by
  unfold infer
  split
  · split <;> rfl
  · rfl

theorem infer_setNext (st : RegState) (m v : Nat) (e : TE) :
    infer { st with next := m } v e = { infer st v e with next := m } := by
  unfold infer
  split
  · split <;> rfl
  · rfl

def inferList (js : List (Nat × TE)) (st : RegState) : RegState := js.foldl (fun s j => infer s j.1 j.2) st

@[simp] theorem inferList_nil (st : RegState) : inferList [] st = st := rfl

@[simp] theorem inferList_cons (j : Nat × TE) (js : List (Nat × TE)) (st : RegState) :
    inferList (j :: js) st = inferList js (infer st j.1 j.2) := rfl

@[simp] theorem inferList_next : ∀ (js : List (Nat × TE)) (st : RegState), (inferList js st).next = st.next
  | [], _ => rfl
  | j :: js, st => by rw [inferList_cons, inferList_next js, infer_next]

theorem infer_mono (st : RegState) (v : Nat) (e : TE) {j : Nat × TE} (hj : j ∈ st.judgements) :
    j ∈ (infer st v e).judgements := by
  unfold infer; split
  · split
    · exact hj
    · exact List.mem_append_left _ hj
  · exact List.mem_append_left _ hj

theorem infer_mem (st : RegState) (v : Nat) (e : TE) (he : ∀ id, e ≠ .equal id) :
    (v, e) ∈ (infer st v e).judgements := by
  unfold infer; split
  · rename_i id; exact absurd rfl (he id)
  · simp

theorem inferList_mono : ∀ (js : List (Nat × TE)) (st : RegState) {j : Nat × TE}, j ∈ st.judgements →
    j ∈ (inferList js st).judgements
  | [], _, _, hj => hj
  | i :: js, st, _, hj => inferList_mono js _ (infer_mono st i.1 i.2 hj)

/-- every listed judgement that is not an equality is recorded (a self-equality would be dropped) -/
theorem mem_inferList : ∀ {js : List (Nat × TE)} {v : Nat} {e : TE}, (v, e) ∈ js → (∀ id, e ≠ .equal id) →
    ∀ st : RegState, (v, e) ∈ (inferList js st).judgements
  | i :: js, v, e, hj, he, st => by
    rcases List.mem_cons.mp hj with rfl | hj
    · exact inferList_mono js _ (infer_mem st v e he)
    · exact mem_inferList hj he _

/-! ### what the rules read below the kids -/

/-- what the dynamic-array-write rule reads of a key: `(d.kind, d.tv, f.tv)` -/
def dynView : TV → Option (Kind × Nat × Nat)
  | .node .storageSlot _ [.node .dynamicArrayIndex _ [d, f] _] _ => some (d.kind, d.tv, f.tv)
  | _ => none

/-- what the mapping-access rule reads of a key: `(mattrs, slot.tv, mkey.tv)` -/
def mapView : TV → Option (List Nat × Nat × Nat)
  | .node .mappingIndex mattrs [slot, mkey] _ => some (mattrs, slot.tv, mkey.tv)
  | _ => none

/-- the spans the packed rule builds -/
def mkSpans (a : List Nat) (tvs : List Nat) : List Span :=
  ((applyRules.spansOf a).zip tvs).map (fun ((o, s), tvk) => (⟨tvk, o, s⟩ : Span))

end SLE.TC

namespace SLE.Rename
open SLE SLE.TC

/-- the width the `signExtend` rule derives from a literal size -/
def sxWidth (w : Nat) : Option Nat := if w % 2 ^ 64 ≤ 256 then some (w % 2 ^ 64) else none

/-- the width the `callData` rule derives from a foldable size -/
def cdWidth (size : TV) : Option Nat := (applyRules.knownOfFolded size).map (fun b => (b % 2 ^ 64) * 8)

end SLE.Rename

namespace SLE.TC
open SLE SLE.SV
open SLE.Rename (sxWidth cdWidth)

/-! ### the rules as a list of judgements -/

/-- the rules that apply whatever the number of kids: environment opcodes, `sha3`, `packed` -/
def envRules (k : Kind) (attrs tvs : List Nat) (t : Nat) : List (Nat × TE) :=
  match k with
  | .address | .origin | .caller | .coinBase => [(t, address)]
  | .callValue | .gasPrice | .blockTimestamp | .blockNumber | .prevrandao | .gasLimit | .chainId
  | .selfBalance | .baseFee | .gas | .callDataSize => [(t, uword)]
  | .sha3 => [(t, bytesN (some 256))]
  | .packed => [(t, .packed (mkSpans attrs tvs) false)]
  | _ => []

/-- the rules that apply to a given number of kids; `n` is the counter, which the mapping rule uses as
its fresh variable -/
def kidRules (n : Nat) (k : Kind) (attrs : List Nat) (ks : List TV) (t : Nat) : List (Nat × TE) :=
  match ks with
  | [x] =>
    (match k with
     | .isZero => [(x.tv, numeric), (t, boolT)]
     | .not_ => [(t, bytesN none), (x.tv, bytesN none)]
     | .balance => [(x.tv, address), (t, uword)]
     | .selfDestruct => [(x.tv, address)]
     | .extCodeHash => [(x.tv, address), (t, bytesN (some 256))]
     | .subWord =>
       (match attrs with
        | [off, size] => [(t, bytesN (some size)), (x.tv, .packed [⟨t, off, size⟩] false)]
        | _ => [])
     | .storageSlot =>
       (x.tv, uword) ::
         (match mapView x with
          | some (mattrs, slot, mkey) =>
            let p := match mattrs with | pr :: _ => (if pr = 0 then 0 else pr - 1) | [] => 0
            [(n, .packed [⟨t, p * 256, 256⟩] false), (slot, .mapping mkey n)]
          | none => [])
     | _ => [])
  | [x, y] =>
    (match k with
     | .add | .multiply | .subtract | .exp => [(t, numeric), (x.tv, numeric), (y.tv, numeric)]
     | .divide | .modulo => [(t, uword), (x.tv, uword), (y.tv, uword)]
     | .signedDivide | .signedModulo => [(t, sword), (x.tv, sword), (y.tv, sword)]
     | .signExtend => [(y.tv, sword), (x.tv, uword), (t, .word ((knownNat x).bind sxWidth) .signedNumeric)]
     | .leftShift | .rightShift => [(x.tv, uword), (t, bytesN none), (y.tv, bytesN none)]
     | .arithmeticRightShift => [(x.tv, uword), (t, sword), (y.tv, sword)]
     | .lessThan | .greaterThan => [(x.tv, uword), (y.tv, uword), (t, boolT)]
     | .signedLessThan | .signedGreaterThan => [(x.tv, sword), (y.tv, sword), (t, boolT)]
     | .equals => [(x.tv, bytesN none), (y.tv, bytesN none), (t, boolT)]
     | .and_ | .or_ | .xor_ => [(x.tv, bytesN none), (y.tv, bytesN none), (t, bytesN none)]
     | .create => [(t, address), (x.tv, uword)]
     | .callData =>
       (x.tv, uword) :: (y.tv, uword) ::
         (match cdWidth y with
          | some width => [(t, bytesN (some width))]
          | none => [])
     | .codeCopy | .returnData => [(x.tv, uword), (y.tv, uword)]
     | .sLoad => [(t, .equal y.tv), (t, .equal x.tv)]
     | .storageWrite =>
       (x.tv, .equal y.tv) :: (y.tv, .equal x.tv) ::
         (match dynView x with
          | some (dk, dt, ft) =>
            if dk == .storageSlot then [(x.tv, .equal y.tv), (ft, uword), (dt, .dynamicArray x.tv)] else []
          | none => [])
     | _ => [])
  | [x, y, _] =>
    (match k with
     | .create2 => [(t, address), (x.tv, uword), (y.tv, bytesN (some 256))]
     | _ => [])
  | [b, c, _, e, f] =>
    (match k with
     | .callWithoutValue => [(t, address), (b.tv, uword), (c.tv, address), (e.tv, uword), (f.tv, uword)]
     | _ => [])
  | [b, c, d, _, f, g] =>
    (match k with
     | .callWithValue =>
       [(t, address), (b.tv, uword), (c.tv, address), (d.tv, uword), (f.tv, uword), (g.tv, uword)]
     | _ => [])
  | _ => []

/-- The judgements the rules pass to `infer` for one registered node, in order. -/
def emitted (n : Nat) : TV → List (Nat × TE)
  | .node k attrs ks t => envRules k attrs (ks.map TV.tv) t ++ kidRules n k attrs ks t

/-- the number of variables the rules allocate at a node: one for a mapping access -/
def fresh : TV → Nat
  | .node k _ ks _ =>
    match ks with
    | [key] =>
      (match k with
       | .storageSlot => if (mapView key).isSome then 1 else 0
       | _ => 0)
    | _ => 0

theorem fresh_le_one (v : TV) : fresh v ≤ 1 := by
  obtain ⟨k, a, ks, t⟩ := v
  simp only [fresh]
  split
  · split
    · split <;> decide
    · decide
  · decide

theorem mapView_eq_none {x : TV} (h : ∀ ma slot mkey tv, x = .node .mappingIndex ma [slot, mkey] tv → False) :
    mapView x = none := by
  unfold mapView
  split
  · exact absurd rfl (h _ _ _ _)
  · rfl

theorem dynView_eq_none {x : TV}
    (h : ∀ a1 a2 d f t1 t2, x = .node .storageSlot a1 [.node .dynamicArrayIndex a2 [d, f] t1] t2 → False) :
    dynView x = none := by
  unfold dynView
  split
  · exact absurd rfl (h _ _ _ _ _ _)
  · rfl

theorem applyRules_eq (st : RegState) (v : TV) :
    applyRules st v = inferList (emitted st.next v) { st with next := st.next + fresh v } := by
  obtain ⟨k, a, ks, t⟩ := v
  -- with the kind and the number of kids known both sides compute to the same chain of `infer`s; the
  -- four rules that match below the kids are split along that match first
  rcases ks with _ | ⟨x, _ | ⟨y, _ | ⟨z, _ | ⟨u, _ | ⟨v, _ | ⟨w, _ | ⟨w', r⟩⟩⟩⟩⟩⟩⟩
  · cases k <;> rfl
  · cases k with
    | subWord =>
      rcases a with _ | ⟨off, _ | ⟨size, _ | _⟩⟩ <;> rfl
    | storageSlot =>
      unfold applyRules emitted envRules kidRules fresh
      dsimp only [List.nil_append, inferList_cons]
      split
      · simp only [mapView, Option.isSome_some, if_true, inferList_cons, inferList_nil, infer_setNext, infer_next]
        rfl
      · rename_i hne
        rw [mapView_eq_none hne]
        rfl
    | _ => rfl
  · cases k with
    | signExtend =>
      unfold applyRules emitted envRules kidRules fresh
      dsimp only [List.nil_append]
      cases knownNat x <;> rfl
    | callData =>
      unfold applyRules emitted envRules kidRules fresh cdWidth
      dsimp only [List.nil_append]
      cases applyRules.knownOfFolded y <;> rfl
    | storageWrite =>
      unfold applyRules emitted envRules kidRules fresh
      dsimp only [List.nil_append, inferList_cons]
      split
      · simp only [dynView]
        split <;> rfl
      · rename_i hne
        rw [dynView_eq_none hne]
        rfl
    | _ => rfl
  · cases k <;> rfl
  · cases k <;> rfl
  · cases k <;> rfl
  · cases k <;> rfl
  · cases k <;> rfl

end SLE.TC
