import SLE.Lemmas.FragUnion
/-!
C02 for word evidence: the result of the analysis does not depend on the iteration orders of the
hash maps (nor on the round budget), for every word-only judgement set — contradictory ones
included.  `UnifyJoin` describes what `unify` leaves on such a set without reference to the order
(`wordResult`, `unify_word_runs`); two runs are compared through that description.
-/
namespace SLE.OrderFreeWords
open SLE SLE.SV SLE.TC SLE.Containers SLE.Unify SLE.Merge SLE.MergeLaws SLE.Layout SLE.Join SLE.OrderFacts
open SLE.Independence SLE.UnifyJoin SLE.FragUnion
open SLE.Rename (analyseLifted)
set_option linter.unusedVariables false
set_option linter.unusedSimpArgs false

/-! ## partition and resolved evidence -/

/-- For an arbitrary word-only problem, not only those produced by the rules. -/
theorem W1_general {o o' : Orders} (ho : OrdersOk o) (ho' : OrdersOk o') {nvars : Nat}
    {infs : Nat → List TE} (hw : WordOnly infs nvars) {fuel fuel' : Nat} {f f' : Forest}
    {n r n' r' : Nat} (h : unify o fuel nvars infs = .ok (f, n, r))
    (h' : unify o' fuel' nvars infs = .ok (f', n', r')) :
    ∀ v, evidence f v = evidence f' v ∧
      (∀ a b, DS.rootOf f a = DS.rootOf f b ↔ DS.rootOf f' a = DS.rootOf f' b) :=
  fun v => ⟨ev_eq ho ho' hw hw h h' v v (fun _ => Iff.rfl), fun a b => by
    rw [(wordResult ho hw h).part a b, (wordResult ho' hw h').part a b]⟩

theorem W1 {o o' : Orders} (ho : OrdersOk o) (ho' : OrdersOk o') (vs : List SV)
    (hw : WordOnly (infOf vs) (nvarsOf vs)) {fuel fuel' : Nat} {f f' : Forest} {n r n' r' : Nat} :
    unify o fuel (nvarsOf vs) (infOf vs) = .ok (f, n, r) →
    unify o' fuel' (nvarsOf vs) (infOf vs) = .ok (f', n', r') →
    ∀ v, evidence f v = evidence f' v ∧
      (∀ a b, DS.rootOf f a = DS.rootOf f b ↔ DS.rootOf f' a = DS.rootOf f' b) :=
  fun h h' => W1_general ho ho' hw h h'

/-! ## `type_of` -/

theorem W2 {o o' : Orders} (ho : OrdersOk o) (ho' : OrdersOk o') (vs : List SV)
    (hw : WordOnly (infOf vs) (nvarsOf vs)) {fuel fuel' : Nat} {f f' : Forest} {n r n' r' : Nat} :
    unify o fuel (nvarsOf vs) (infOf vs) = .ok (f, n, r) →
    unify o' fuel' (nvarsOf vs) (infOf vs) = .ok (f', n', r') →
    ∀ v, v < nvarsOf vs → typeOfIn f v = typeOfIn f' v := by
  intro h h' v hv
  rw [(typeOfIn_word ho hw h hv).1, (typeOfIn_word ho' hw h' hv).1, (W1 ho ho' vs hw h h' v).1]

/-! ## the layout -/

theorem layoutEntries_order_free {o o' : Orders} (ho : OrdersOk o) (ho' : OrdersOk o') (vs : List SV)
    (hw : WordOnly (infOf vs) (nvarsOf vs)) {fuel fuel' : Nat} {f f' : Forest} {n r n' r' : Nat}
    (h : unify o fuel (nvarsOf vs) (infOf vs) = .ok (f, n, r))
    (h' : unify o' fuel' (nvarsOf vs) (infOf vs) = .ok (f', n', r')) :
    layoutEntries (typeOfIn f) 4096 (registerAll vs).values
      = layoutEntries (typeOfIn f') 4096 (registerAll vs).values := by
  have := layoutEntries_word ho hw h (typeOfIn f') id (registerAll vs).values (fun _ _ => rfl)
    (fun t ht => ⟨(registered_lt ht).2, W2 ho ho' vs hw h h' t.tv (registered_lt ht).2⟩)
  rwa [List.map_id] at this

theorem W3 {o o' : Orders} (ho : OrdersOk o) (ho' : OrdersOk o') (vs : List SV)
    (hw : WordOnly (infOf vs) (nvarsOf vs)) {fuel fuel' : Nat}
    {l l' : List (Layout.Entry JsonModel.AbiType)} :
    (analyseLifted o fuel vs).outcome = .layout l →
    (analyseLifted o' fuel' vs).outcome = .layout l' → l = l' := by
  intro h h'
  obtain ⟨f, n, r, es, hu, hl, rfl⟩ := (outcome_layout_iff o fuel _ l).mp h
  obtain ⟨f', n', r', es', hu', hl', rfl⟩ := (outcome_layout_iff o' fuel' _ l').mp h'
  rw [layoutEntries_order_free ho ho' vs hw hu hu', hl'] at hl
  injection hl with hl
  rw [hl]

theorem W3_exists {o o' : Orders} (ho : OrdersOk o) (ho' : OrdersOk o') (vs : List SV)
    (hw : WordOnly (infOf vs) (nvarsOf vs)) {fuel fuel' : Nat}
    {l : List (Layout.Entry JsonModel.AbiType)} :
    (analyseLifted o fuel vs).outcome = .layout l → 2 ≤ fuel' →
    (analyseLifted o' fuel' vs).outcome = .layout l := by
  intro h hfuel
  obtain ⟨f, n, r, es, hu, hl, rfl⟩ := (outcome_layout_iff o fuel _ l).mp h
  obtain ⟨f', r', hu', _⟩ := unify_word_runs ho' hw fuel' hfuel
  refine (outcome_layout_iff o' fuel' _ _).mpr ⟨f', _, r', es, hu', ?_, rfl⟩
  rw [← layoutEntries_order_free ho ho' vs hw hu hu']
  exact hl

/-- Layouts and render faults alike: with two rounds unification cannot fault on word evidence. -/
theorem W3_outcome {o o' : Orders} (ho : OrdersOk o) (ho' : OrdersOk o') (vs : List SV)
    (hw : WordOnly (infOf vs) (nvarsOf vs)) {fuel fuel' : Nat} (hf : 2 ≤ fuel) (hf' : 2 ≤ fuel') :
    (analyseLifted o fuel vs).outcome = (analyseLifted o' fuel' vs).outcome := by
  obtain ⟨f, r, hu, _⟩ := unify_word_runs ho hw fuel hf
  obtain ⟨f', r', hu', _⟩ := unify_word_runs ho' hw fuel' hf'
  rw [Rename.analyseLifted_outcome, Rename.analyseLifted_outcome]
  rw [tailOutcome_ok (n := (inferAll (registerAll vs)).next) (J := (inferAll (registerAll vs)).judgements) hu,
    tailOutcome_ok (n := (inferAll (registerAll vs)).next) (J := (inferAll (registerAll vs)).judgements) hu',
    layoutEntries_order_free ho ho' vs hw hu hu']

/-! ## non-vacuity -/

def revOrders : Orders := ⟨List.reverse, List.reverse, List.reverse, List.reverse⟩

theorem revOrders_ok : OrdersOk revOrders :=
  ⟨fun l => List.reverse_perm l, fun l => List.reverse_perm l, fun l => List.reverse_perm l,
    fun l => List.reverse_perm l⟩

theorem revOrders_ne_idOrders : revOrders ≠ idOrders := by
  intro h
  have : revOrders.vars [0, 1] = idOrders.vars [0, 1] := by rw [h]
  exact absurd this (by decide)

theorem exAB_wordOnly : WordOnly (infOf [exA, exB]) (nvarsOf [exA, exB]) := ex_wordOnly

theorem exC_wordOnly' : WordOnly (infOf [exC1, exC2]) (nvarsOf [exC1, exC2]) :=
  (frag_left [exC1, exC2] [exB] exC_disjoint).wordOnly FragUnion.exC_wordOnly

theorem exAB_layout :
    (analyseLifted idOrders 2 [exA, exB]).outcome
      = .layout [⟨1, 0, .uInt none⟩, ⟨2, 0, .address⟩] :=
  U3.2.2.2.2.2 idOrders FragUnion.idOrders_ok 2 (Nat.le_refl 2)

/-- Obtained from the identity-order run through `W3_exists`, not by evaluation. -/
theorem W5_AB (fuel : Nat) (hfuel : 2 ≤ fuel) :
    (analyseLifted revOrders fuel [exA, exB]).outcome
      = .layout [⟨1, 0, .uInt none⟩, ⟨2, 0, .address⟩] :=
  W3_exists FragUnion.idOrders_ok revOrders_ok [exA, exB] exAB_wordOnly exAB_layout hfuel

theorem W5_AB_all (o : Orders) (ho : OrdersOk o) :
    (∀ fuel, 2 ≤ fuel → (analyseLifted o fuel [exA, exB]).outcome
      = .layout [⟨1, 0, .uInt none⟩, ⟨2, 0, .address⟩]) ∧
    (∀ fuel l, (analyseLifted o fuel [exA, exB]).outcome = .layout l →
      l = [⟨1, 0, .uInt none⟩, ⟨2, 0, .address⟩]) :=
  ⟨fun fuel hfuel => W3_exists FragUnion.idOrders_ok ho [exA, exB] exAB_wordOnly exAB_layout hfuel,
   fun fuel l h => W3 ho FragUnion.idOrders_ok [exA, exB] exAB_wordOnly h exAB_layout⟩

/-- The contradictory fragment: slot 1 receives a `bool` and an `address`. -/
theorem W5_C (fuel : Nat) (hfuel : 2 ≤ fuel) :
    (analyseLifted revOrders fuel [exC1, exC2]).outcome
      = .layout [⟨1, 0, .conflictedType [] []⟩] :=
  W3_exists FragUnion.idOrders_ok revOrders_ok [exC1, exC2] exC_wordOnly' exC_layoutA hfuel

theorem W5_C_all (o : Orders) (ho : OrdersOk o) :
    (∀ fuel, 2 ≤ fuel → (analyseLifted o fuel [exC1, exC2]).outcome
      = .layout [⟨1, 0, .conflictedType [] []⟩]) ∧
    (∀ fuel l, (analyseLifted o fuel [exC1, exC2]).outcome = .layout l →
      l = [⟨1, 0, .conflictedType [] []⟩]) :=
  ⟨fun fuel hfuel => W3_exists FragUnion.idOrders_ok ho [exC1, exC2] exC_wordOnly' exC_layoutA hfuel,
   fun fuel l h => W3 ho FragUnion.idOrders_ok [exC1, exC2] exC_wordOnly' h exC_layoutA⟩

theorem W5_agree {fuel fuel' : Nat} {l l' : List (Layout.Entry JsonModel.AbiType)} :
    ((analyseLifted idOrders fuel [exA, exB]).outcome = .layout l →
      (analyseLifted revOrders fuel' [exA, exB]).outcome = .layout l' → l = l') ∧
    ((analyseLifted idOrders fuel [exC1, exC2]).outcome = .layout l →
      (analyseLifted revOrders fuel' [exC1, exC2]).outcome = .layout l' → l = l') :=
  ⟨W3 FragUnion.idOrders_ok revOrders_ok [exA, exB] exAB_wordOnly,
   W3 FragUnion.idOrders_ok revOrders_ok [exC1, exC2] exC_wordOnly'⟩

/-- the same two layouts by evaluation, under the reversed orders -/
example : (analyseLifted revOrders 2 [exA, exB]).outcome
    = .layout [⟨1, 0, .uInt none⟩, ⟨2, 0, .address⟩] := rfl
example : (analyseLifted revOrders 2 [exC1, exC2]).outcome
    = .layout [⟨1, 0, .conflictedType [] []⟩] := rfl

/-- W1 on the contradictory example: both orders resolve the class of the slot variable to
`conflict` (here by evaluation; W1 says so for every pair of admissible orders). -/
example : ∃ f f' n r n' r',
    unify idOrders 2 (nvarsOf [exC1, exC2]) (infOf [exC1, exC2]) = .ok (f, n, r) ∧
    unify revOrders 2 (nvarsOf [exC1, exC2]) (infOf [exC1, exC2]) = .ok (f', n', r') ∧
    evidence f 1 = [.conflict] ∧ evidence f' 1 = [.conflict] :=
  ⟨_, _, _, _, _, _, rfl, rfl, rfl, rfl⟩

end SLE.OrderFreeWords
