import SLE.Lemmas.VMControl
/-!
C03 — termination of the control loop with an explicit bound on the number of iterations.
-/
namespace SLE.VM
open SLE SLE.SV SLE.Disasm

theorem sum_le_length_mul (B : Nat) :
    ∀ l : List Nat, (∀ off, l.getD off 0 ≤ B) → l.sum ≤ l.length * B
  | [], _ => Nat.zero_le _
  | a :: l, h => by
    have ih := sum_le_length_mul B l fun off => h (off + 1)
    have h0 : a ≤ B := h 0
    rw [List.sum_cons, List.length_cons, Nat.succ_mul]
    omega

/-! ### the measure -/

/-- number of JUMPDEST entries of the stream -/
def jdCount (code : List Instr) : Nat := (code.filter (· == .op 0x5b)).length

/-- how many more instructions this thread may execute, at most: every execution counts one
visit, and no counter passes `iterLimit` -/
def cap (cfg : Cfg) (code : List Instr) (t : Thread) : Nat :=
  code.length * cfg.iterLimit - t.visited.sum

def qsum (cfg : Cfg) (code : List Instr) (q : List Thread) : Nat :=
  (q.map (fun t => cap cfg code t + 1)).sum

/-- Each queued thread counts for the instructions it may still execute, each fork still allowed
for a whole new thread. -/
def μ (cfg : Cfg) (code : List Instr) (s : VMS) : Nat :=
  qsum cfg code s.queue +
    (cfg.forkLimit * jdCount code - s.forks.sum) * (code.length * cfg.iterLimit + 1)

variable {cfg : Cfg} {code : List Instr} {s s' : VMS} {t t' : Thread} {rest : List Thread}

theorem cap_le (cfg : Cfg) (code : List Instr) (t : Thread) :
    cap cfg code t ≤ code.length * cfg.iterLimit := Nat.sub_le _ _

theorem qsum_cons (cfg : Cfg) (code : List Instr) (t : Thread) (q : List Thread) :
    qsum cfg code (t :: q) = cap cfg code t + 1 + qsum cfg code q := by
  simp [qsum]

theorem qsum_append (cfg : Cfg) (code : List Instr) (q q' : List Thread) :
    qsum cfg code (q ++ q') = qsum cfg code q + qsum cfg code q' := by
  simp [qsum, List.sum_append]

theorem qsum_nil (cfg : Cfg) (code : List Instr) : qsum cfg code [] = 0 := rfl

/-- Executing the instruction the head thread stands on uses up one of its visits. -/
theorem cap_head (h : Inv cfg code s) (hq : s.queue = t :: rest) (hv : t'.visited = bump t.visited t.ip) :
    cap cfg code t' + 1 = cap cfg code t := by
  have htq : t ∈ s.queue := by rw [hq]; exact List.mem_cons_self ..
  have hok := h.queueOk t htq
  have hrun := h.runnable t htq
  have hok' := threadOk_bump hok hrun.lt t' hv
  have hle := sum_le_length_mul cfg.iterLimit t'.visited hok'.le
  rw [hok'.len, hv, bump_sum _ _ (by rw [hok.len]; exact hrun.ip)] at hle
  unfold cap
  rw [hv, bump_sum _ _ (by rw [hok.len]; exact hrun.ip)]
  omega

/-- `advance` never increases the measure. -/
theorem μ_advance_le (cfg : Cfg) (code : List Instr) (s : VMS) :
    μ cfg code (advance cfg code s) ≤ μ cfg code s := by
  cases hq : s.queue with
  | nil => rw [advance_nil hq]; exact Nat.le_refl _
  | cons t rest =>
    rw [advance_cons hq]
    unfold μ
    split
    · dsimp only
      rw [hq, qsum_cons]; omega
    · rw [hq]; exact Nat.le_refl _

/-- Replacing the head thread by one that has counted its visit, forks as they were, lowers the
measure. -/
theorem μ_head_lt (h : Inv cfg code s) (hq : s.queue = t :: rest) (hq' : s'.queue = t' :: rest) (hv : t'.visited = bump t.visited t.ip)
    (hf : s'.forks = s.forks) : μ cfg code s' < μ cfg code s := by
  have := cap_head h hq hv
  unfold μ
  rw [hq', hq, hf, qsum_cons, qsum_cons]
  omega

/-- Executing an instruction strictly lowers the measure (whatever its data effect): a fork
adds a thread to the queue but uses up one of the `forkLimit * jdCount` forks. -/
theorem μ_midOk_lt (ins : Instr) {o : OpOut} (h : Inv cfg code s) (hq : s.queue = t :: rest)
    (hf : ∀ tgt, o.forkTo = some tgt → code[tgt]? = some (.op 0x5b)) :
    μ cfg code (midOk cfg s t rest ins o) < μ cfg code s := by
  refine midOk_cases (motive := fun s' => μ cfg code s' < μ cfg code s)
    (fun _ _ => μ_head_lt h hq rfl rfl rfl) (fun tgt _ hft hfk => ?_)
    (fun _ _ _ _ => μ_head_lt h hq rfl rfl rfl) (fun _ _ => μ_head_lt h hq rfl rfl rfl)
  have hlen : tgt < s.forks.length := by
    rw [h.forks.len]; exact (List.getElem?_eq_some_iff.mp (hf tgt hft)).1
  have hs1 := forks_sum_le (forksOk_bump h.forks (hf tgt hft) (forkOk_iff.mp hfk).2)
  rw [bump_sum _ _ hlen] at hs1
  have h1 := cap_head (t' := after t ins o) h hq rfl
  have h2 := cap_head
    (t' := ⟨tgt, bump t.visited t.ip, t.gas, { o.d with forkPoint := t.ip }⟩) h hq rfl
  have hcapt := cap_le cfg code t
  have hA : cfg.forkLimit * jdCount code - s.forks.sum =
      (cfg.forkLimit * jdCount code - (s.forks.sum + 1)) + 1 := by
    unfold jdCount; omega
  unfold μ
  dsimp only at h2 ⊢
  rw [bump_sum _ _ hlen, hq, hA, Nat.add_mul, Nat.one_mul, List.cons_append, qsum_cons, qsum_cons,
    qsum_append, qsum_cons, qsum_nil]
  omega

/-- Every iteration strictly lowers the measure, unless it aborts. -/
theorem μ_step_lt (h : Inv cfg code s) (hne : s.queue ≠ []) :
    μ cfg code (step cfg code s) < μ cfg code s ∨ (step cfg code s).aborted.isSome := by
  refine step_cases (motive := fun s' => μ cfg code s' < μ cfg code s ∨ s'.aborted.isSome)
    (fun hq => absurd hq hne) (fun _ _ _ _ => .inr rfl) (fun _ _ _ _ _ _ _ => .inr rfl)
    (fun t rest ins hq _ _ => .inl ?_) (fun t rest ins e hq _ _ _ => .inl ?_)
  · exact Nat.lt_of_le_of_lt (μ_advance_le ..)
      (μ_midOk_lt ins h hq fun tgt hh => execOp_forkTo_jumpdest hh)
  · exact Nat.lt_of_le_of_lt (μ_advance_le ..)
      (μ_head_lt (s' := midErr cfg s t rest (opOut cfg code s t ins) e) h hq rfl rfl rfl)

/-- Fuel `μ s` suffices. -/
theorem run_reaches (cfg : Cfg) (code : List Instr) :
    ∀ (fuel : Nat) (s : VMS), Inv cfg code s → μ cfg code s ≤ fuel →
      (run cfg code fuel s).queue = [] ∨ (run cfg code fuel s).aborted.isSome = true
  | 0, s, _, hμ => by
    left
    show s.queue = []
    cases hq : s.queue with
    | nil => rfl
    | cons t rest =>
      unfold μ at hμ
      rw [hq, qsum_cons] at hμ
      omega
  | fuel + 1, s, h, hμ => by
    by_cases hc : (s.queue.isEmpty || s.aborted.isSome) = true
    · rw [run_stop hc]
      simpa using hc
    · rw [run_succ hc]
      rcases μ_step_lt h (fun hq => hc (by simp [hq])) with hlt | hab
      · exact run_reaches cfg code fuel _ (inv_step' h) (by omega)
      · rw [run_stop (by simp [hab])]
        exact .inr hab

theorem μ_init_le (cfg : Cfg) (code : List Instr) :
    μ cfg code (initVM cfg code) ≤
      (code.length * cfg.iterLimit + 1) * (1 + cfg.forkLimit * jdCount code) := by
  have h1 := cap_le cfg code
    { ip := 0, visited := List.replicate code.length 0, gas := 0, d := {} }
  unfold μ initVM
  dsimp only
  generalize code.length * cfg.iterLimit = LI at *
  generalize cfg.forkLimit * jdCount code = FJ
  have : (LI + 1) * (1 + FJ) = LI + 1 + (FJ * LI + FJ) := by
    rw [Nat.mul_add, Nat.mul_one, Nat.mul_comm (LI + 1) FJ, Nat.mul_add, Nat.mul_one]
  rw [qsum_cons, qsum_nil, List.sum_replicate_nat, Nat.mul_zero, Nat.sub_zero, this, Nat.mul_add,
    Nat.mul_one]
  omega

/-- The loop terminates within an explicit number of iterations that depends only on
`code.length`, `iterLimit`, `forkLimit` and the number of JUMPDESTs. -/
theorem run_terminates {cfg : Cfg} {code : List Instr} (hc : 0 < code.length)
    (hi : 0 < cfg.iterLimit) :
    let bound := (code.length * cfg.iterLimit + 1) *
      (1 + cfg.forkLimit * (code.filter (· == .op 0x5b)).length)
    ∀ fuel, fuel ≥ bound →
      let s := run cfg code fuel (initVM cfg code)
      s.queue = [] ∨ s.aborted.isSome = true := by
  intro bound fuel hfuel
  exact run_reaches cfg code fuel _ (inv_init hc hi)
    (Nat.le_trans (μ_init_le cfg code) hfuel)

end SLE.VM
