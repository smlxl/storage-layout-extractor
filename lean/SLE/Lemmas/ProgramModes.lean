import SLE.Lemmas.VMModes
import SLE.Model.Pipe
/-
C17 at the level of the whole analysis (`Pipe.analyseProgram`): the theorems of `VMModes`
(about `VM.run`) lifted through disassembly, the error check and the type checker.
-/
namespace SLE.ProgramModes
open SLE SLE.SV SLE.VM SLE.Disasm SLE.Pipe

/-! ### the pieces of `analyseProgram` -/

/-- The values handed to the type checker: `all_values()` of every stored thread. -/
def valuesOf (s : VMS) : List SV := s.stored.flatMap (fun t => allValues t.d)

/-- The error list `analyze` looks at: the early-exit error if any, else the error buffer. -/
def errsOf (s : VMS) : List (Nat × XErr) :=
  match s.aborted with
  | some e => [(0, e)]
  | none => s.errors

/-- The strict / permissive runs of a code. -/
@[reducible] def strictRun (cfg : Cfg) (code : List Instr) (vmFuel : Nat) : VMS :=
  run (strict cfg) code vmFuel (initVM (strict cfg) code)
@[reducible] def permRun (cfg : Cfg) (code : List Instr) (vmFuel : Nat) : VMS :=
  run (perm cfg) code vmFuel (initVM (perm cfg) code)

section
variable {h : Lift.HashCtx} {o : Unify.Orders} {cfg : Cfg} {bytes : List Nat} {vmFuel uFuel : Nat}
  {code : List Instr}

theorem analyseProgram_error {e : Disasm.DErr} (hd : Disasm.disasm bytes = .error e) :
    analyseProgram h o cfg bytes vmFuel uFuel = .disasmError e := by
  unfold analyseProgram
  rw [hd]

theorem analyseProgram_ok (hd : Disasm.disasm bytes = .ok code) :
    analyseProgram h o cfg bytes vmFuel uFuel =
      if !(errsOf (run cfg code vmFuel (initVM cfg code))).isEmpty then
        .execErrors (errsOf (run cfg code vmFuel (initVM cfg code)))
      else .analysed (TC.analyse h o uFuel (valuesOf (run cfg code vmFuel (initVM cfg code)))) := by
  unfold analyseProgram
  rw [hd]
  rfl

theorem analyseProgram_of_errs (hd : Disasm.disasm bytes = .ok code)
    (he : errsOf (run cfg code vmFuel (initVM cfg code)) ≠ []) :
    analyseProgram h o cfg bytes vmFuel uFuel =
      .execErrors (errsOf (run cfg code vmFuel (initVM cfg code))) := by
  rw [analyseProgram_ok hd, if_pos]
  simpa using he

/-- Reading a result back. -/
theorem analysed_inv {a : TC.Analysis}
    (ha : analyseProgram h o cfg bytes vmFuel uFuel = .analysed a) :
    ∃ code, Disasm.disasm bytes = .ok code ∧
      errsOf (run cfg code vmFuel (initVM cfg code)) = [] ∧
      a = TC.analyse h o uFuel (valuesOf (run cfg code vmFuel (initVM cfg code))) := by
  cases hd : Disasm.disasm bytes with
  | error e => rw [analyseProgram_error hd] at ha; cases ha
  | ok code =>
    refine ⟨code, rfl, ?_⟩
    rw [analyseProgram_ok hd] at ha
    split at ha
    · cases ha
    · rename_i hne
      injection ha with ha
      exact ⟨by simpa using hne, ha.symm⟩

theorem execErrors_inv {es : List (Nat × XErr)}
    (ha : analyseProgram h o cfg bytes vmFuel uFuel = .execErrors es) :
    ∃ code, Disasm.disasm bytes = .ok code ∧
      es = errsOf (run cfg code vmFuel (initVM cfg code)) ∧ es ≠ [] := by
  cases hd : Disasm.disasm bytes with
  | error e => rw [analyseProgram_error hd] at ha; cases ha
  | ok code =>
    refine ⟨code, rfl, ?_⟩
    rw [analyseProgram_ok hd] at ha
    split at ha
    · rename_i hne
      injection ha with ha
      subst ha
      exact ⟨rfl, by simpa using hne⟩
    · cases ha

end

/-! ### `dropJump` and the pieces -/

theorem dropJump_aborted (s : VMS) : (dropJump s).aborted = s.aborted := rfl
theorem dropJump_stored (s : VMS) : (dropJump s).stored = s.stored := rfl
theorem valuesOf_dropJump (s : VMS) : valuesOf (dropJump s) = valuesOf s := rfl

/-- The permissive run stores the same threads as the strict one … -/
theorem valuesOf_perm (cfg : Cfg) (code : List Instr) (vmFuel : Nat) :
    valuesOf (permRun cfg code vmFuel) = valuesOf (strictRun cfg code vmFuel) := by
  show valuesOf (run (perm cfg) code vmFuel (initVM (perm cfg) code)) = _
  rw [run_perm_eq]; rfl

/-- … and aborts exactly when the strict one does, with the same error. -/
theorem aborted_perm (cfg : Cfg) (code : List Instr) (vmFuel : Nat) :
    (permRun cfg code vmFuel).aborted = (strictRun cfg code vmFuel).aborted := by
  show (run (perm cfg) code vmFuel (initVM (perm cfg) code)).aborted = _
  rw [run_perm_eq]; rfl

/-- Whatever the mode, code and fuel: the early-exit error of a run from the initial state is
`InstructionPointerOutOfBounds` or a panic — never a jump kind. -/
theorem aborted_not_jumpKind (cfg : Cfg) (code : List Instr) (fuel : Nat) (e : XErr)
    (h : (run cfg code fuel (initVM cfg code)).aborted = some e) : e.isJumpKind = false := by
  refine run_induction (P := fun s => ∀ e, s.aborted = some e → e.isJumpKind = false)
    (fun s hs => ?_) fuel _ (fun e he => by cases he) e h
  exact step_cases (motive := fun s' => ∀ e, s'.aborted = some e → e.isJumpKind = false) (fun _ => hs)
    (fun _ _ _ _ e he => by cases he; rfl) (fun _ _ _ _ _ _ _ e he => by cases he; rfl)
    (fun _ _ _ _ _ _ e he => hs e (advance_midOk_aborted ▸ he))
    (fun _ _ _ _ _ _ _ _ e he => hs e (advance_midErr_aborted ▸ he))

/-! ### the two modes -/

/-- The error list the permissive analysis looks at is the strict one with the jump kinds
filtered out (this also covers the early-exit case, by `aborted_not_jumpKind`). -/
theorem errsOf_perm (cfg : Cfg) (code : List Instr) (vmFuel : Nat) :
    errsOf (permRun cfg code vmFuel) =
      (errsOf (strictRun cfg code vmFuel)).filter (fun e => !e.2.isJumpKind) := by
  show errsOf (run (perm cfg) code vmFuel (initVM (perm cfg) code)) = _
  rw [run_perm_eq]
  unfold errsOf
  rw [dropJump_aborted]
  cases hab : (run (strict cfg) code vmFuel (initVM (strict cfg) code)).aborted with
  | none => rfl
  | some e =>
    have := aborted_not_jumpKind (strict cfg) code vmFuel e hab
    simp [this]

section
variable {h : Lift.HashCtx} {o : Unify.Orders} {cfg : Cfg} {bytes : List Nat} {vmFuel uFuel : Nat}
  {code : List Instr}

/-- The permissive analysis is determined by the strict run: what the strict analysis lists
minus the jump kinds is what fails it, and it type-checks the values of the strict run. -/
theorem analyseProgram_perm (hd : Disasm.disasm bytes = .ok code) :
    analyseProgram h o (perm cfg) bytes vmFuel uFuel =
      if !((errsOf (strictRun cfg code vmFuel)).filter (fun e => !e.2.isJumpKind)).isEmpty then
        .execErrors ((errsOf (strictRun cfg code vmFuel)).filter (fun e => !e.2.isJumpKind))
      else .analysed (TC.analyse h o uFuel (valuesOf (strictRun cfg code vmFuel))) := by
  rw [analyseProgram_ok hd, errsOf_perm, valuesOf_perm]

theorem perm_of_clean (hd : Disasm.disasm bytes = .ok code)
    (hj : ∀ e ∈ errsOf (strictRun cfg code vmFuel), e.2.isJumpKind = true) :
    analyseProgram h o (perm cfg) bytes vmFuel uFuel =
      .analysed (TC.analyse h o uFuel (valuesOf (strictRun cfg code vmFuel))) := by
  rw [analyseProgram_perm hd, List.filter_eq_nil_iff.mpr fun x hx => by simp [hj x hx]]
  rfl

theorem perm_of_errs (hd : Disasm.disasm bytes = .ok code)
    {x : Nat × XErr} (hx : x ∈ errsOf (strictRun cfg code vmFuel)) (hnj : x.2.isJumpKind = false) :
    analyseProgram h o (perm cfg) bytes vmFuel uFuel =
        .execErrors ((errsOf (strictRun cfg code vmFuel)).filter (fun e => !e.2.isJumpKind)) ∧
      x ∈ (errsOf (strictRun cfg code vmFuel)).filter (fun e => !e.2.isJumpKind) := by
  have hmem : x ∈ (errsOf (strictRun cfg code vmFuel)).filter (fun e => !e.2.isJumpKind) :=
    List.mem_filter.mpr ⟨hx, by simp [hnj]⟩
  rw [analyseProgram_perm hd, if_pos (by simpa using List.ne_nil_of_mem hmem)]
  exact ⟨rfl, hmem⟩

end

/-- If the strict run is not aborted and every error it recorded is a jump kind, the permissive
analysis does not fail, and what it type-checks are the values of the stored threads of the
strict run. -/
theorem M2_run (h : Lift.HashCtx) (o : Unify.Orders) (cfg : Cfg) (bytes : List Nat)
    (vmFuel uFuel : Nat) (code : List Instr) (hd : Disasm.disasm bytes = .ok code)
    (hab : (run (strict cfg) code vmFuel (initVM (strict cfg) code)).aborted = none)
    (hj : ∀ e ∈ (run (strict cfg) code vmFuel (initVM (strict cfg) code)).errors,
      e.2.isJumpKind = true) :
    analyseProgram h o (perm cfg) bytes vmFuel uFuel =
      .analysed (TC.analyse h o uFuel
        (valuesOf (run (strict cfg) code vmFuel (initVM (strict cfg) code)))) := by
  refine perm_of_clean hd fun x hx => hj x ?_
  unfold errsOf at hx
  rwa [hab] at hx

/-- An error that the strict analysis reports and that is not a jump kind is also reported, at
the same location, by the permissive analysis. -/
theorem M3 (h : Lift.HashCtx) (o : Unify.Orders) (cfg : Cfg) (bytes : List Nat) (vmFuel uFuel : Nat)
    (es : List (Nat × XErr)) (x : Nat × XErr)
    (hs : analyseProgram h o (strict cfg) bytes vmFuel uFuel = .execErrors es)
    (hx : x ∈ es) (hnj : x.2.isJumpKind = false) :
    ∃ es', analyseProgram h o (perm cfg) bytes vmFuel uFuel = .execErrors es' ∧ x ∈ es' := by
  obtain ⟨code, hd, rfl, _⟩ := execErrors_inv hs
  exact ⟨_, perm_of_errs hd hx hnj⟩

/-! ### non-vacuity: concrete programs -/

def exCtx : Lift.HashCtx := ⟨fun _ => none, fun _ => 0⟩
def exCfg : Cfg := ⟨30000000, 10, 50, 250, 394, false⟩
/-- PUSH1 1; PUSH1 7; SSTORE; PUSH1 0; JUMP — the jump target 0 is not a JUMPDEST. -/
def exJump : List Nat := [0x60, 0x01, 0x60, 0x07, 0x55, 0x60, 0x00, 0x56]
/-- ADD on an empty stack. -/
def exUnderflow : List Nat := [0x01]

/-- the result is `.execErrors es` with `p es` -/
def isExecErrors (p : List (Nat × XErr) → Bool) : Result → Bool
  | .execErrors es => p es
  | _ => false

/-- the slot indices of the layout of a result, if it is one -/
def slotsOf : Result → Option (List Nat)
  | .analysed a => (match a.outcome with | .layout l => some (l.map (·.index)) | _ => none)
  | _ => none

theorem isExecErrors_spec {p : List (Nat × XErr) → Bool} {r : Result}
    (h : isExecErrors p r = true) : ∃ es, r = .execErrors es ∧ p es = true := by
  cases r with
  | execErrors es => exact ⟨es, rfl, h⟩
  | disasmError e => cases h
  | analysed a => cases h

theorem slotsOf_spec {r : Result} {l : List Nat} (h : slotsOf r = some l) :
    ∃ a l', r = .analysed a ∧ a.outcome = .layout l' ∧ l'.map (·.index) = l := by
  unfold slotsOf at h
  split at h
  · rename_i a
    split at h
    · rename_i l' hl'
      injection h with h
      exact ⟨a, l', rfl, hl', h⟩
    · cases h
  · cases h

/-- Strict mode on `exJump`: exactly one error, a jump kind, located at the JUMP (offset 7). -/
theorem M5_strict_jump :
    isExecErrors (fun es => es.length == 1 && es.all (fun e => e.2.isJumpKind) &&
        es.all (fun e => e.1 == 7))
      (analyseProgram exCtx Unify.idOrders (strict exCfg) exJump 100 400) = true := by
  decide +kernel

/-- Permissive mode on `exJump`: a layout, with the single slot 7. -/
theorem M5_perm_jump :
    slotsOf (analyseProgram exCtx Unify.idOrders (perm exCfg) exJump 100 400) = some [7] := by
  decide +kernel

/-- A stack underflow fails the analysis in both modes, with the same non-jump-kind error. -/
theorem M5_underflow :
    isExecErrors (fun es => es == [(0, .noSuchStackFrame)])
      (analyseProgram exCtx Unify.idOrders (strict exCfg) exUnderflow 100 400) = true ∧
    isExecErrors (fun es => es == [(0, .noSuchStackFrame)])
      (analyseProgram exCtx Unify.idOrders (perm exCfg) exUnderflow 100 400) = true := by
  decide +kernel

/-- `M2_run` instantiated on `exJump`: its hypotheses are satisfiable, and its conclusion is the
layout with slot 7. -/
example : ∃ es, analyseProgram exCtx Unify.idOrders (strict exCfg) exJump 100 400 = .execErrors es ∧
    (∀ e ∈ es, e.2.isJumpKind = true) ∧
    ∃ a l, analyseProgram exCtx Unify.idOrders (perm exCfg) exJump 100 400 = .analysed a ∧
      a.outcome = .layout l ∧ l.map (·.index) = [7] := by
  obtain ⟨es, hes, hp⟩ := isExecErrors_spec M5_strict_jump
  obtain ⟨a, l, ha, hl, hm⟩ := slotsOf_spec M5_perm_jump
  refine ⟨es, hes, ?_, a, l, ha, hl, hm⟩
  simp only [Bool.and_eq_true, List.all_eq_true] at hp
  exact hp.1.2

/-- `M3` instantiated on `exUnderflow`. -/
example : ∃ es x, analyseProgram exCtx Unify.idOrders (strict exCfg) exUnderflow 100 400 = .execErrors es ∧
    x ∈ es ∧ x.2.isJumpKind = false := by
  obtain ⟨es, hes, hp⟩ := isExecErrors_spec M5_underflow.1
  have : es = [(0, .noSuchStackFrame)] := by simpa using hp
  exact ⟨es, (0, .noSuchStackFrame), hes, by rw [this]; simp, rfl⟩

/-- the result is `.disasmError e` -/
def isDisasmError (e : Disasm.DErr) : Result → Bool
  | .disasmError e' => e' == e
  | _ => false

/-- The empty bytecode is a disassembly error in both modes. -/
theorem M5_disasm :
    isDisasmError .emptyBytecode (analyseProgram exCtx Unify.idOrders (strict exCfg) [] 100 400) = true ∧
    isDisasmError .emptyBytecode (analyseProgram exCtx Unify.idOrders (perm exCfg) [] 100 400) = true := by
  decide +kernel

end SLE.ProgramModes
