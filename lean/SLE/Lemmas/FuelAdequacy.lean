import SLE.Model.Lift
import SLE.Model.TC
import SLE.Lemmas.Fold
import SLE.Lemmas.TCSlots
import SLE.Lemmas.LiftShape
/-!
Fuel adequacy: the fuel handed to the fuel-recursive passes of the model is always enough, i.e.
the result does not depend on the fuel once it exceeds the node count of the tree.
-/
namespace SLE.FuelAdequacy
open SLE SLE.SV SLE.Lift SLE.TC
open SLE.LiftShape (agree_of_step nodeCount_mem_le mapE_congr getShift_fst)

/-! ### the passes

Each is an instance of `agree_of_step`: at `fuel + 1` a pass calls itself at `fuel` on kids of the
node, or on parts (or folds of parts) of its kids. -/

theorem proxySlots_agree (h : HashCtx) : ∀ f1 f2 t, nodeCount t < f1 → nodeCount t < f2 →
    proxySlots h f1 t = proxySlots h f2 t :=
  agree_of_step fun f1 f2 k a ks s ih => by
    have hk : ∀ c ∈ ks, proxySlots h f1 c = proxySlots h f2 c :=
      fun c hc => ih c (nodeCount_mem_le hc)
    simp only [proxySlots]
    split
    · rw [hk _ (by simp), hk _ (by simp)]
    · rw [hk _ (by simp), hk _ (by simp)]
    · rw [List.map_congr_left hk]

theorem proxySlots_fuel (h : HashCtx) (t : SV) :
    ∀ fuel, nodeCount t < fuel → proxySlots h fuel t = proxySlots h (nodeCount t + 1) t :=
  fun fuel hf => proxySlots_agree h fuel _ t hf (by omega)

theorem insertMappingAccesses_agree : ∀ f1 f2 t, nodeCount t < f1 → nodeCount t < f2 →
    insertMappingAccesses f1 t = insertMappingAccesses f2 t :=
  agree_of_step fun f1 f2 k a ks s ih => by
    simp only [insertMappingAccesses]
    split
    · simp only [nodeCount, nodeCountList] at ih
      rw [ih _ (by omega), ih _ (by omega)]
    · rw [List.map_congr_left fun c hc => ih c (nodeCount_mem_le hc)]

theorem insertMappingAccesses_fuel (t : SV) :
    ∀ fuel, nodeCount t < fuel → insertMappingAccesses fuel t = insertMappingAccesses (nodeCount t + 1) t :=
  fun fuel hf => insertMappingAccesses_agree fuel _ t hf (by omega)

theorem insertMulShifts_agree : ∀ f1 f2 t, nodeCount t < f1 → nodeCount t < f2 →
    insertMulShifts f1 t = insertMulShifts f2 t :=
  agree_of_step fun f1 f2 k a ks s ih => by
    have hk : ∀ c ∈ ks, insertMulShifts f1 c = insertMulShifts f2 c :=
      fun c hc => ih c (nodeCount_mem_le hc)
    simp only [insertMulShifts]
    rw [List.map_congr_left hk]
    split
    · rw [hk _ (by simp), hk _ (by simp)]
    · rfl

theorem insertMulShifts_fuel (t : SV) :
    ∀ fuel, nodeCount t < fuel → insertMulShifts fuel t = insertMulShifts (nodeCount t + 1) t :=
  fun fuel hf => insertMulShifts_agree fuel _ t hf (by omega)

theorem liftPacked_agree : ∀ f1 f2 t, nodeCount t < f1 → nodeCount t < f2 →
    liftPacked f1 t = liftPacked f2 t :=
  agree_of_step fun f1 f2 k a ks s ih => by
    simp only [liftPacked]
    rw [mapE_congr fun c hc => ih c (nodeCount_mem_le hc)]

theorem liftPacked_fuel (t : SV) :
    ∀ fuel, nodeCount t < fuel → liftPacked fuel t = liftPacked (nodeCount t + 1) t :=
  fun fuel hf => liftPacked_agree fuel _ t hf (by omega)

theorem insertStorageSlots_agree : ∀ f1 f2 t, nodeCount t < f1 → nodeCount t < f2 →
    insertStorageSlots f1 t = insertStorageSlots f2 t :=
  agree_of_step fun f1 f2 k a ks s ih => by
    have hk : ∀ c ∈ ks, insertStorageSlots f1 c = insertStorageSlots f2 c :=
      fun c hc => ih c (nodeCount_mem_le hc)
    simp only [insertStorageSlots]
    split
    case h_5 => rw [List.map_congr_left hk]
    all_goals rw [hk _ (by simp), hk _ (by simp)]

theorem insertStorageSlots_fuel (t : SV) :
    ∀ fuel, nodeCount t < fuel → insertStorageSlots fuel t = insertStorageSlots (nodeCount t + 1) t :=
  fun fuel hf => insertStorageSlots_agree fuel _ t hf (by omega)

theorem getShift_fst_le (v : SV) : nodeCount (getShift v).1 ≤ nodeCount v := by
  rcases getShift_fst v with h | h
  · rw [h]; exact Nat.le_refl _
  · cases v with
    | node k a ks s => have := nodeCount_mem_le (ks := ks) h; simp only [nodeCount]; omega

theorem insertSubWords_agree : ∀ f1 f2 t, nodeCount t < f1 → nodeCount t < f2 →
    insertSubWords f1 t = insertSubWords f2 t :=
  agree_of_step fun f1 f2 k a ks s ih => by
    have hs : ∀ c ∈ ks, insertSubWords f1 (getShift c).1 = insertSubWords f2 (getShift c).1 :=
      fun c hc => ih _ (Nat.le_trans (getShift_fst_le c) (nodeCount_mem_le hc))
    simp only [insertSubWords]
    rw [mapE_congr fun c hc => ih c (nodeCount_mem_le hc)]
    split
    · rename_i left right
      have hl := hs left (by simp)
      have hr := hs right (by simp)
      cases getRegion left with
      | some p => simp only [hr]
      | none =>
        cases getRegion right with
        | some p => simp only [hl]
        | none => rfl
    · rfl

theorem insertSubWords_fuel (t : SV) :
    ∀ fuel, nodeCount t < fuel → insertSubWords fuel t = insertSubWords (nodeCount t + 1) t :=
  fun fuel hf => insertSubWords_agree fuel _ t hf (by omega)

theorem liftDynArray_agree : ∀ f1 f2 t, nodeCount t < f1 → nodeCount t < f2 →
    liftDynArray f1 t = liftDynArray f2 t :=
  agree_of_step fun f1 f2 k a ks s ih => by
    have hk : ∀ c ∈ ks, liftDynArray f1 c = liftDynArray f2 c :=
      fun c hc => ih c (nodeCount_mem_le hc)
    simp only [liftDynArray]
    rw [List.map_congr_left hk]
    split
    · rename_i left right
      rw [hk right (by simp)]
      split
      · rfl
      · rename_i data hdata
        have hd : nodeCount data < nodeCountList [left, right] := by
          simp only [nodeCountList]
          split at hdata
          · cases hdata; simp only [nodeCount, nodeCountList]; omega
          · split at hdata
            · cases hdata; simp only [nodeCount, nodeCountList]; omega
            · cases hdata
        split
        · rfl
        · rename_i d hd'
          -- `d` is `data`, or the fold of the one kid of `data`, and folding never grows a tree
          have : nodeCount d ≤ nodeCountList [left, right] := by
            split at hd'
            · cases hd'
              rename_i one _
              have := nodeCount_fold_le one
              simp only [nodeCount, nodeCountList] at hd ⊢
              omega
            · cases hd'
            · cases hd'; exact Nat.le_of_lt hd
          rw [ih d this]
    · rfl

theorem liftDynArray_fuel (t : SV) :
    ∀ fuel, nodeCount t < fuel → liftDynArray fuel t = liftDynArray (nodeCount t + 1) t :=
  fun fuel hf => liftDynArray_agree fuel _ t hf (by omega)

theorem insertMappingOffset_agree : ∀ f1 f2 t, nodeCount t < f1 → nodeCount t < f2 →
    insertMappingOffset f1 t = insertMappingOffset f2 t :=
  agree_of_step fun f1 f2 k a ks s ih => by
    simp only [insertMappingOffset]
    rw [List.map_congr_left fun c hc => ih c (nodeCount_mem_le hc)]
    split
    · rename_i left right
      split
      · rename_i key slot off hp
        have : nodeCount key ≤ nodeCountList [left, right] ∧
            nodeCount slot ≤ nodeCountList [left, right] := by
          simp only [nodeCountList]
          split at hp
          · split at hp
            · cases hp; simp only [nodeCount, nodeCountList]; omega
            · cases hp
          · split at hp
            · cases hp; simp only [nodeCount, nodeCountList]; omega
            · cases hp
          · cases hp
        rw [ih slot this.2, ih key this.1]
      · rfl
    · rfl

theorem insertMappingOffset_fuel (t : SV) :
    ∀ fuel, nodeCount t < fuel → insertMappingOffset fuel t = insertMappingOffset (nodeCount t + 1) t :=
  fun fuel hf => insertMappingOffset_agree fuel _ t hf (by omega)

/-! ### unpickOrs (called by `liftPacked` with fuel `nodeCount value`, without `+ 1`) -/

theorem unpickOrs_agree : ∀ f1 f2 t, nodeCount t ≤ f1 → nodeCount t ≤ f2 →
    unpickOrs f1 t = unpickOrs f2 t := by
  intro f1
  induction f1 with
  | zero =>
    intro f2 t h1 _
    obtain ⟨k, a, ks, s⟩ := t
    simp only [nodeCount] at h1
    omega
  | succ f1 ih =>
    intro f2 t h1 h2
    cases f2 with
    | zero =>
      obtain ⟨k, a, ks, s⟩ := t
      simp only [nodeCount] at h2
      omega
    | succ f2 =>
      simp only [unpickOrs]
      split
      · simp only [nodeCount, nodeCountList] at h1 h2
        rw [ih f2 _ (by omega) (by omega), ih f2 _ (by omega) (by omega)]
      · rfl

theorem unpickOrs_fuel (t : SV) :
    ∀ fuel, nodeCount t ≤ fuel → unpickOrs fuel t = unpickOrs (nodeCount t) t :=
  fun fuel hf => unpickOrs_agree fuel _ t hf (Nat.le_refl _)

/-! ### guarded -/

theorem guarded_agree (inner : SV → SV) : ∀ f1 f2 t, nodeCount t < f1 → nodeCount t < f2 →
    guarded inner f1 t = guarded inner f2 t :=
  agree_of_step fun f1 f2 k a ks s ih => by
    simp only [guarded]
    rw [List.map_congr_left fun c hc => ih c (nodeCount_mem_le hc)]

/-- `guarded` never passes its own fuel to `inner`, so no hypothesis on `inner` is needed. -/
theorem guarded_fuel (inner : SV → SV) (t : SV) :
    ∀ fuel, nodeCount t < fuel → guarded inner fuel t = guarded inner (nodeCount t + 1) t :=
  fun fuel hf => guarded_agree inner fuel _ t hf (by omega)

theorem guarded_fuel_inner (P : Nat → SV → SV)
    (hP : ∀ t fuel, nodeCount t < fuel → P fuel t = P (nodeCount t + 1) t)
    (f g : SV → Nat) (hf : ∀ t, nodeCount t < f t) (hg : ∀ t, nodeCount t < g t) (t : SV) :
    ∀ fuel fuel', nodeCount t < fuel → nodeCount t < fuel' →
      guarded (fun t => P (f t) t) fuel t = guarded (fun t => P (g t) t) fuel' t := by
  intro fuel fuel' h1 h2
  have : (fun t => P (f t) t) = fun t => P (g t) t :=
    funext fun t => by rw [hP t _ (hf t), hP t _ (hg t)]
  rw [this]
  exact guarded_agree _ _ _ _ h1 h2

/-! ### the lifting pipeline has no hidden size limit -/

/-- `liftAll` with every fuel `nodeCount t + 1` (and `2 * (nodeCount t + 1)` for
`liftDynArray`) replaced by `f t`. -/
def liftAllWith (f : SV → Nat) (h : HashCtx) (v : SV) : Except LFault SV :=
  let v1 := transform (slotHashesT h) v
  let v2 := proxySlots h (f v1) v1
  let v3 := guarded (fun t => insertMappingAccesses (f t) t) (f v2) v2
  match insertSubWords (f v3) v3 with
  | .error e => .error e
  | .ok v4 =>
    let v5 := insertMulShifts (f v4) v4
    match liftPacked (f v5) v5 with
    | .error e => .error e
    | .ok v6 =>
      let v7 := guarded (fun t => liftDynArray (f t) t) (f v6) v6
      let v8 := insertStorageSlots (f v7) v7
      .ok (insertMappingOffset (f v8) v8)

/-- the same with a separate fuel function for the `liftDynArray` slot -/
def liftAllWith2 (f fd : SV → Nat) (h : HashCtx) (v : SV) : Except LFault SV :=
  let v1 := transform (slotHashesT h) v
  let v2 := proxySlots h (f v1) v1
  let v3 := guarded (fun t => insertMappingAccesses (f t) t) (f v2) v2
  match insertSubWords (f v3) v3 with
  | .error e => .error e
  | .ok v4 =>
    let v5 := insertMulShifts (f v4) v4
    match liftPacked (f v5) v5 with
    | .error e => .error e
    | .ok v6 =>
      let v7 := guarded (fun t => liftDynArray (fd t) t) (f v6) v6
      let v8 := insertStorageSlots (f v7) v7
      .ok (insertMappingOffset (f v8) v8)

theorem liftAllWith2_congr (f fd g gd : SV → Nat) (h : HashCtx) (v : SV)
    (hf : ∀ t, nodeCount t < f t) (hfd : ∀ t, nodeCount t < fd t)
    (hg : ∀ t, nodeCount t < g t) (hgd : ∀ t, nodeCount t < gd t) :
    liftAllWith2 f fd h v = liftAllWith2 g gd h v := by
  have e1 : ∀ t, proxySlots h (f t) t = proxySlots h (g t) t :=
    fun t => proxySlots_agree h _ _ t (hf t) (hg t)
  have e2 : ∀ t, guarded (fun t => insertMappingAccesses (f t) t) (f t) t
      = guarded (fun t => insertMappingAccesses (g t) t) (g t) t :=
    fun t => guarded_fuel_inner insertMappingAccesses insertMappingAccesses_fuel f g hf hg t _ _ (hf t) (hg t)
  have e3 : ∀ t, insertSubWords (f t) t = insertSubWords (g t) t :=
    fun t => insertSubWords_agree _ _ t (hf t) (hg t)
  have e4 : ∀ t, insertMulShifts (f t) t = insertMulShifts (g t) t :=
    fun t => insertMulShifts_agree _ _ t (hf t) (hg t)
  have e5 : ∀ t, liftPacked (f t) t = liftPacked (g t) t :=
    fun t => liftPacked_agree _ _ t (hf t) (hg t)
  have e6 : ∀ t, guarded (fun t => liftDynArray (fd t) t) (f t) t
      = guarded (fun t => liftDynArray (gd t) t) (g t) t :=
    fun t => guarded_fuel_inner liftDynArray liftDynArray_fuel fd gd hfd hgd t _ _ (hf t) (hg t)
  have e7 : ∀ t, insertStorageSlots (f t) t = insertStorageSlots (g t) t :=
    fun t => insertStorageSlots_agree _ _ t (hf t) (hg t)
  have e8 : ∀ t, insertMappingOffset (f t) t = insertMappingOffset (g t) t :=
    fun t => insertMappingOffset_agree _ _ t (hf t) (hg t)
  simp only [liftAllWith2, e1, e2, e3, e4, e5, e6, e7, e8]

theorem liftAll_fuel_free (f : SV → Nat) (h : HashCtx) (v : SV) (hf : ∀ t, nodeCount t < f t) :
    liftAllWith f h v = liftAll h v := by
  show liftAllWith2 f f h v =
    liftAllWith2 (fun t => nodeCount t + 1) (fun t => 2 * (nodeCount t + 1)) h v
  exact liftAllWith2_congr _ _ _ _ h v hf hf (fun t => by omega) (fun t => by omega)

/-- `liftDynArray` may be given `nodeCount t + 1` like every other pass: the doubling in `liftAll`
is not needed (folding never grows a tree). -/
theorem liftAll_no_doubling (h : HashCtx) (v : SV) :
    liftAll h v = liftAllWith (fun t => nodeCount t + 1) h v :=
  (liftAll_fuel_free _ h v (fun t => by omega)).symm


/-! ### isStable, register, registerAll -/

theorem any_congr_of_mem {α : Type} {f g : α → Bool} : ∀ {l : List α}, (∀ x ∈ l, f x = g x) → l.any f = l.any g
  | [], _ => rfl
  | x :: xs, h => by
    simp only [List.any_cons]
    rw [h x (by simp), any_congr_of_mem (fun y hy => h y (List.mem_cons_of_mem _ hy))]

theorem isStable_agree : ∀ f1 f2 t, nodeCount t < f1 → nodeCount t < f2 →
    isStable f1 t = isStable f2 t :=
  agree_of_step fun f1 f2 k a ks s ih => by
    simp only [isStable]
    rw [any_congr_of_mem fun c hc => ih c (nodeCount_mem_le hc)]

theorem isStable_fuel (t : SV) :
    ∀ fuel, nodeCount t < fuel → isStable fuel t = isStable (nodeCount t + 1) t :=
  fun fuel hf => isStable_agree fuel _ t hf (by omega)

open SLE.TCSlots in
theorem regList_congr (f1 f2 : Nat) : ∀ (ks : List SV) (st : RegState),
    (∀ c ∈ ks, ∀ st, register f1 st c = register f2 st c) → regList f1 st ks = regList f2 st ks
  | [], _, _ => rfl
  | c :: cs, st, h => by
    simp only [regList]
    rw [h c (by simp) st, regList_congr f1 f2 cs _ (fun x hx => h x (List.mem_cons_of_mem _ hx))]

open SLE.TCSlots in
theorem register_agree (f1 f2 : Nat) (st : RegState) (v : SV) (h1 : nodeCount v < f1)
    (h2 : nodeCount v < f2) : register f1 st v = register f2 st v :=
  congrFun (agree_of_step (P := fun f v st => register f st v)
    (fun f1 f2 k a ks s ih => funext fun st => by
      rw [register_succ, register_succ,
        regList_congr f1 f2 ks st fun c hc st => congrFun (ih c (nodeCount_mem_le hc)) st])
    f1 f2 v h1 h2) st

theorem register_fuel (st : RegState) (v : SV) :
    ∀ fuel, nodeCount v < fuel → register fuel st v = register (nodeCount v + 1) st v :=
  fun fuel hf => register_agree fuel _ st v hf (by omega)

/-- `registerAll` with the fuel `nodeCount v + 1` replaced by `f v` -/
def registerAllWith (f : SV → Nat) (vs : List SV) : RegState :=
  vs.foldl (fun st v => (register (f v) st v).1) {}

theorem registerAllWith_eq (f : SV → Nat) (hf : ∀ v, nodeCount v < f v) (vs : List SV) :
    registerAllWith f vs = registerAll vs := by
  have : (fun (st : RegState) v => (register (f v) st v).1)
       = (fun (st : RegState) v => (register (nodeCount v + 1) st v).1) := by
    funext st v
    rw [register_fuel st v _ (hf v)]
  simp only [registerAllWith, registerAll, this]

/-! ### toSV -/

mutual
def tvCount : TV → Nat
  | .node _ _ ks _ => tvCountList ks + 1
def tvCountList : List TV → Nat
  | [] => 0
  | k :: ks => tvCount k + tvCountList ks
end

mutual
/-- height of a registered tree (a leaf has height 1): the measure `toSV` really consumes -/
def tvDepth : TV → Nat
  | .node _ _ ks _ => tvDepthList ks + 1
def tvDepthList : List TV → Nat
  | [] => 0
  | k :: ks => max (tvDepth k) (tvDepthList ks)
end

mutual
/-- the fuel-free `toSV`: forget the type variables -/
def erase : TV → SV
  | .node k a ks _ => rebuild k a (eraseList ks)
def eraseList : List TV → List SV
  | [] => []
  | k :: ks => erase k :: eraseList ks
end

theorem eraseList_eq_map : ∀ ks, eraseList ks = ks.map erase
  | [] => rfl
  | k :: ks => by simp only [eraseList, List.map_cons, eraseList_eq_map ks]

mutual
theorem tvDepth_le_count : ∀ t, tvDepth t ≤ tvCount t
  | .node _ _ ks _ => by
    have := tvDepthList_le_count ks
    simp only [tvDepth, tvCount]; omega
theorem tvDepthList_le_count : ∀ ks, tvDepthList ks ≤ tvCountList ks
  | [] => Nat.le_refl _
  | k :: ks => by
    have := tvDepth_le_count k
    have := tvDepthList_le_count ks
    simp only [tvDepthList, tvCountList]; omega
end

theorem tvDepth_mem : ∀ {ks : List TV} {c : TV}, c ∈ ks → tvDepth c ≤ tvDepthList ks
  | [], _, h => by cases h
  | x :: xs, c, h => by
    simp only [tvDepthList]
    rcases List.mem_cons.mp h with h | h
    · subst h; omega
    · have := tvDepth_mem h; omega

theorem toSV_eq_erase : ∀ fuel t, tvDepth t ≤ fuel → toSV fuel t = erase t := by
  intro fuel
  induction fuel with
  | zero =>
    intro t h
    obtain ⟨k, a, ks, tv⟩ := t
    simp only [tvDepth] at h; omega
  | succ fuel ih =>
    intro t h
    obtain ⟨k, a, ks, tv⟩ := t
    simp only [tvDepth] at h
    have hk : ∀ c ∈ ks, toSV fuel c = erase c := fun c hc => ih c (by have := tvDepth_mem hc; omega)
    simp only [toSV, erase, eraseList_eq_map]
    rw [List.map_congr_left hk]

/-- `tvCount t < fuel` is the shape of the other fuel lemmas; `tvDepth t ≤ fuel` is what is really
needed (`toSV_fuel_depth`). -/
theorem toSV_fuel (t : TV) :
    ∀ fuel, tvCount t < fuel → toSV fuel t = toSV (tvCount t + 1) t := by
  intro fuel h
  have := tvDepth_le_count t
  rw [toSV_eq_erase fuel t (by omega), toSV_eq_erase _ t (by omega)]

theorem toSV_fuel_depth (t : TV) :
    ∀ fuel, tvDepth t ≤ fuel → toSV fuel t = toSV (tvDepth t) t := by
  intro fuel h
  rw [toSV_eq_erase fuel t h, toSV_eq_erase _ t (Nat.le_refl _)]

/-- The constant `100000` of the call-data rule is enough when the `size` kid has fewer than
100000 nodes (more precisely: height at most 100000). -/
theorem knownOfFolded_fuel_depth (size : TV) (h : tvDepth size ≤ 100000) :
    applyRules.knownOfFolded size = knownOf (fold (erase size)) := by
  unfold applyRules.knownOfFolded
  rw [toSV_eq_erase _ size h]

theorem knownOfFolded_fuel (size : TV) (h : tvCount size < 100000) :
    applyRules.knownOfFolded size = knownOf (fold (toSV (tvCount size + 1) size)) := by
  have := tvDepth_le_count size
  rw [knownOfFolded_fuel_depth size (by omega), toSV_eq_erase _ size (by omega)]

/-- The limit is real: on a chain higher than the fuel, `toSV` truncates. -/
def notChain : Nat → TV
  | 0 => .node .value [7] [] 0
  | n + 1 => .node .not_ [] [notChain n] 0

theorem erase_notChain_kind (n : Nat) : (erase (notChain n)).kind ≠ .knownData := by
  cases n <;> simp [notChain, erase, rebuild, SV.kind]

theorem toSV_truncates : ∀ fuel n, fuel ≤ n → toSV fuel (notChain n) ≠ erase (notChain n) := by
  intro fuel
  induction fuel with
  | zero =>
    intro n _ h
    have := erase_notChain_kind n
    rw [← h] at this
    simp [toSV, mkKnown, SV.kind] at this
  | succ fuel ih =>
    intro n hn h
    cases n with
    | zero => omega
    | succ n =>
      simp only [notChain, toSV, erase, eraseList, rebuild, List.map_cons, List.map_nil] at h
      injection h with _ _ h3 _
      injection h3 with h4 _
      exact ih n (by omega) h4


/-- ... and the truncation is observable by the call-data rule: on a chain of `n` `isZero`
nodes over the constant 1, `toSV n` yields the opposite constant after folding. -/
def izChain : Nat → TV
  | 0 => .node .knownData [1] [] 0
  | n + 1 => .node .isZero [] [izChain n] 0

theorem fold_isZero_known (t : SV) (w : Word) (h : fold t = mkKnown w) :
    fold (rebuild .isZero [] [t]) = mkKnown (Known.isZero w) := by
  simp [rebuild, fold, foldList, h, foldNode, knownBin, knownUn, asWord, mkKnown]

theorem izChain_folds : ∀ n, ∃ b c : Word,
    fold (erase (izChain n)) = mkKnown b ∧ fold (toSV n (izChain n)) = mkKnown c ∧
    ((b = 1#256 ∧ c = 0#256) ∨ (b = 0#256 ∧ c = 1#256)) := by
  intro n
  induction n with
  | zero =>
    refine ⟨1#256, 0#256, ?_, ?_, Or.inl ⟨rfl, rfl⟩⟩
    · simp [izChain, erase, eraseList, rebuild, fold, foldList, foldNode, knownBin, knownUn, mkKnown, childSize]
    · simp [toSV, fold, foldList, foldNode, knownBin, knownUn, mkKnown, rebuild, childSize]
  | succ n ih =>
    obtain ⟨b, c, hb, hc, hbc⟩ := ih
    refine ⟨Known.isZero b, Known.isZero c, ?_, ?_, ?_⟩
    · simp only [izChain, erase, eraseList]
      exact fold_isZero_known _ _ hb
    · simp only [izChain, toSV, List.map_cons, List.map_nil]
      exact fold_isZero_known _ _ hc
    · rcases hbc with ⟨rfl, rfl⟩ | ⟨rfl, rfl⟩
      · exact Or.inr ⟨by decide, by decide⟩
      · exact Or.inl ⟨by decide, by decide⟩

theorem toSV_truncation_observable (n : Nat) :
    knownOf (fold (toSV n (izChain n))) ≠ knownOf (fold (erase (izChain n))) := by
  obtain ⟨b, c, hb, hc, hbc⟩ := izChain_folds n
  rw [hb, hc]
  rcases hbc with ⟨rfl, rfl⟩ | ⟨rfl, rfl⟩ <;> simp [knownOf, mkKnown]

/-- the concrete (remote) limit of the model: a `size` operand of height 100001 -/
theorem knownOfFolded_limit :
    applyRules.knownOfFolded (izChain 100000) ≠ knownOf (fold (erase (izChain 100000))) :=
  toSV_truncation_observable 100000


/-- a registration of `v` has exactly the nodes of `v`, so the bound can be read on the runtime tree -/
theorem tvCount_of_Rep : ∀ (t : TV) (v : SV), SLE.TCSlots.Rep t v → tvCount t = nodeCount v
  | .node _ _ ks _, .node _ _ ks' _, h => by
    simp only [SLE.TCSlots.Rep] at h
    simp only [tvCount, nodeCount, tvCountList_of_RepL ks ks' h.2.2]
where
  tvCountList_of_RepL : ∀ (ts : List TV) (vs : List SV), SLE.TCSlots.RepL ts vs → tvCountList ts = nodeCountList vs
  | [], [], _ => rfl
  | t :: ts, v :: vs, h => by
    simp only [SLE.TCSlots.RepL] at h
    simp only [tvCountList, nodeCountList, tvCount_of_Rep t v h.1, tvCountList_of_RepL ts vs h.2]
  | [], _ :: _, h => by simp [SLE.TCSlots.RepL] at h
  | _ :: _, [], h => by simp [SLE.TCSlots.RepL] at h

theorem knownOfFolded_fuel_of_Rep (size : TV) (v : SV) (hr : SLE.TCSlots.Rep size v)
    (h : nodeCount v < 100000) :
    applyRules.knownOfFolded size = knownOf (fold (erase size)) := by
  have := tvCount_of_Rep size v hr
  have := tvDepth_le_count size
  exact knownOfFolded_fuel_depth size (by omega)

/-! ### abiTypeFor — more fuel never changes a result other than `outOfFuel` -/

open SLE.JsonModel

abbrev AbiRes := Except RErr (AbiVal × List TE)

/-- the loop body of the `.packed` case, over an arbitrary recursive call `R` -/
def pstep (R : Nat → List TE → Bool → AbiRes)
    (acc : Except RErr (List (AbiType × Nat) × List TE)) (s : Span) :
    Except RErr (List (AbiType × Nat) × List TE) :=
  match acc with
  | .error e => .error e
  | .ok (pairs, seen) =>
    match R s.typ seen true with
    | .error e => .error e
    | .ok (.packed xs, seen) => .ok (pairs ++ xs.map (fun (ty, ofs) => (ty, ofs + s.offset)), seen)
    | .ok (.type ty, seen) => .ok (pairs ++ [(ty, s.offset)], seen)

theorem foldl_pstep_error (R : Nat → List TE → Bool → AbiRes) (e : RErr) :
    ∀ l : List Span, l.foldl (pstep R) (.error e) = .error e
  | [] => rfl
  | s :: l => by simp only [List.foldl_cons, pstep, foldl_pstep_error R e l]

theorem pstep_stable (R R' : Nat → List TE → Bool → AbiRes)
    (hR : ∀ v seen pp, R v seen pp ≠ .error .outOfFuel → R' v seen pp = R v seen pp)
    (acc : Except RErr (List (AbiType × Nat) × List TE)) (s : Span)
    (h : pstep R acc s ≠ .error .outOfFuel) : pstep R' acc s = pstep R acc s := by
  cases acc with
  | error e => rfl
  | ok p =>
    obtain ⟨pairs, seen⟩ := p
    have : R s.typ seen true ≠ .error .outOfFuel := by
      intro hc
      apply h
      simp only [pstep, hc]
    simp only [pstep, hR _ _ _ this]

theorem foldl_pstep_stable (R R' : Nat → List TE → Bool → AbiRes)
    (hR : ∀ v seen pp, R v seen pp ≠ .error .outOfFuel → R' v seen pp = R v seen pp) :
    ∀ (l : List Span) (acc : Except RErr (List (AbiType × Nat) × List TE)),
      l.foldl (pstep R) acc ≠ .error .outOfFuel → l.foldl (pstep R') acc = l.foldl (pstep R) acc
  | [], _, _ => rfl
  | s :: l, acc, h => by
    simp only [List.foldl_cons] at h ⊢
    have hs : pstep R acc s ≠ .error .outOfFuel := by
      intro hc
      rw [hc, foldl_pstep_error] at h
      exact h rfl
    rw [pstep_stable R R' hR acc s hs]
    exact foldl_pstep_stable R R' hR l _ h

/-- one unfolding of `abiTypeFor`, over an arbitrary recursive call `R` -/
def abiBody (typeOf : Nat → Except RErr TE) (R : Nat → List TE → Bool → AbiRes)
    (v : Nat) (seen : List TE) (parentPacked : Bool) : AbiRes :=
    match typeOf v with
    | .error e => .error e
    | .ok te =>
      let isCtor := match te with
        | .fixedArray _ _ | .mapping _ _ | .dynamicArray _ | .equal _ | .packed _ _ => true
        | _ => false
      if seen.contains te && isCtor then .ok (.type .infiniteType, seen)
      else
        let seen := if seen.contains te then seen else seen ++ [te]
        match te with
        | .any => .ok (.type .any, seen)
        | .word w u => (match wordAbi w u with | .ok t => .ok (.type t, seen) | .error e => .error e)
        | .bytes => .ok (.type .dynBytes, seen)
        | .fixedArray e len =>
          (match R e seen false with
           | .error x => .error x
           | .ok (tp, seen) => .ok (.type (.array len (expectType tp)), seen))
        | .mapping k w =>
          (match R k seen false with
           | .error x => .error x
           | .ok (kt, seen) =>
             match R w seen false with
             | .error x => .error x
             | .ok (vt, seen) => .ok (.type (.mapping (expectType kt) (expectType vt)), seen))
        | .dynamicArray e =>
          (match R e seen false with
           | .error x => .error x
           | .ok (tp, seen) => .ok (.type (.dynArray (expectType tp)), seen))
        | .packed types isStruct =>
          let r := types.foldl (pstep R) (.ok ([], seen))
          (match r with
           | .error e => .error e
           | .ok (pairs, seen) =>
             if parentPacked then .ok (.packed pairs, seen)
             else match pairs with
               | [] => .ok (.type .any, seen)
               | [(ty, off)] =>
                 if off = 0 then .ok (.type ty, seen)
                 else .ok (.packed [(.bytes (some (off / 8)), 0), (ty, off)], seen)
               | _ =>
                 if isStruct then .ok (.type (.struct (pairs.map (fun (ty, off) => .mk off ty))), seen)
                 else .ok (.packed pairs, seen))
        | .equal _ => .error .invalidInference
        | .conflict => .ok (.type (.conflictedType [] []), seen)

theorem abiTypeFor_succ (typeOf : Nat → Except RErr TE) (fuel v : Nat) (seen : List TE) (pp : Bool) :
    abiTypeFor typeOf (fuel + 1) v seen pp = abiBody typeOf (abiTypeFor typeOf fuel) v seen pp := by
  rw [abiTypeFor]
  rfl

theorem abiBody_stable (typeOf : Nat → Except RErr TE) (R R' : Nat → List TE → Bool → AbiRes)
    (hR : ∀ v seen pp, R v seen pp ≠ .error .outOfFuel → R' v seen pp = R v seen pp)
    (v : Nat) (seen : List TE) (pp : Bool)
    (h : abiBody typeOf R v seen pp ≠ .error .outOfFuel) :
    abiBody typeOf R' v seen pp = abiBody typeOf R v seen pp := by
  unfold abiBody at h ⊢
  cases hty : typeOf v with
  | error e => rfl
  | ok te =>
    simp only [hty] at h ⊢
    cases te with
    | any => rfl
    | word w u => rfl
    | bytes => rfl
    | equal _ => rfl
    | conflict => rfl
    | fixedArray e len =>
      simp only at h ⊢
      split
      · rfl
      · rename_i hseen
        rw [if_neg hseen] at h
        have h1 : R e (if seen.contains (.fixedArray e len) then seen else seen ++ [.fixedArray e len]) false
            ≠ .error .outOfFuel := by
          intro hc; apply h; rw [hc]
        rw [hR _ _ _ h1]
    | dynamicArray e =>
      simp only at h ⊢
      split
      · rfl
      · rename_i hseen
        rw [if_neg hseen] at h
        have h1 : R e (if seen.contains (.dynamicArray e) then seen else seen ++ [.dynamicArray e]) false
            ≠ .error .outOfFuel := by
          intro hc; apply h; rw [hc]
        rw [hR _ _ _ h1]
    | mapping k w =>
      simp only at h ⊢
      split
      · rfl
      · rename_i hseen
        rw [if_neg hseen] at h
        have h1 : R k (if seen.contains (.mapping k w) then seen else seen ++ [.mapping k w]) false
            ≠ .error .outOfFuel := by
          intro hc; apply h; rw [hc]
        rw [hR _ _ _ h1]
        cases hk : R k (if seen.contains (.mapping k w) then seen else seen ++ [.mapping k w]) false with
        | error x => rfl
        | ok p =>
          obtain ⟨kt, seen2⟩ := p
          simp only [hk] at h ⊢
          have h2 : R w seen2 false ≠ .error .outOfFuel := by
            intro hc; apply h; rw [hc]
          rw [hR _ _ _ h2]
    | packed types isStruct =>
      simp only at h ⊢
      split
      · rfl
      · rename_i hseen
        rw [if_neg hseen] at h
        have h1 : types.foldl (pstep R)
            (.ok ([], if seen.contains (.packed types isStruct) then seen else seen ++ [.packed types isStruct]))
            ≠ .error .outOfFuel := by
          intro hc; apply h; rw [hc]
        rw [foldl_pstep_stable R R' hR _ _ h1]

theorem abiTypeFor_stable (typeOf : Nat → Except RErr TE) : ∀ fuel v seen pp,
    abiTypeFor typeOf fuel v seen pp ≠ .error .outOfFuel →
    abiTypeFor typeOf (fuel + 1) v seen pp = abiTypeFor typeOf fuel v seen pp := by
  intro fuel
  induction fuel with
  | zero => intro v seen pp h; exact absurd rfl h
  | succ fuel ih =>
    intro v seen pp h
    rw [abiTypeFor_succ] at h
    rw [abiTypeFor_succ typeOf (fuel + 1), abiTypeFor_succ typeOf fuel]
    exact abiBody_stable typeOf _ _ ih v seen pp h

theorem abiTypeFor_mono (typeOf : Nat → Except RErr TE) (fuel v : Nat) (seen : List TE) (pp : Bool)
    (r : AbiVal × List TE) (h : abiTypeFor typeOf fuel v seen pp = .ok r) :
    abiTypeFor typeOf (fuel + 1) v seen pp = .ok r := by
  rw [abiTypeFor_stable typeOf fuel v seen pp (by rw [h]; exact fun hc => by cases hc), h]

theorem abiTypeFor_stable_add (typeOf : Nat → Except RErr TE) (fuel v : Nat) (seen : List TE) (pp : Bool)
    (h : abiTypeFor typeOf fuel v seen pp ≠ .error .outOfFuel) :
    ∀ extra, abiTypeFor typeOf (fuel + extra) v seen pp = abiTypeFor typeOf fuel v seen pp
  | 0 => rfl
  | extra + 1 => by
    have ih := abiTypeFor_stable_add typeOf fuel v seen pp h extra
    rw [← Nat.add_assoc, abiTypeFor_stable typeOf _ v seen pp (by rw [ih]; exact h), ih]

/-- if the constant 4096 used by `analyse` does not run out, no larger fuel would
give a different answer -/
theorem abiTypeFor_4096 (typeOf : Nat → Except RErr TE) (v : Nat) (seen : List TE) (pp : Bool)
    (h : abiTypeFor typeOf 4096 v seen pp ≠ .error .outOfFuel) (fuel : Nat) (hf : 4096 ≤ fuel) :
    abiTypeFor typeOf fuel v seen pp = abiTypeFor typeOf 4096 v seen pp := by
  obtain ⟨extra, rfl⟩ := Nat.exists_eq_add_of_le hf
  exact abiTypeFor_stable_add typeOf 4096 v seen pp h extra

end SLE.FuelAdequacy
