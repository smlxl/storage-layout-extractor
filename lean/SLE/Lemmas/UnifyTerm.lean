import SLE.Lemmas.Unify
/-!
C14 — termination of the unification loop on packed-free input: at most `nvars + 2` rounds.
-/
namespace SLE.Unify
open SLE SLE.Containers SLE.Merge SLE.MergeLaws
set_option linter.unusedVariables false
set_option linter.unusedSimpArgs false

/-! ## Finite sums over an initial segment -/

def sumTo : Nat → (Nat → Nat) → Nat
  | 0, _ => 0
  | n + 1, g => sumTo n g + g n

theorem sumTo_congr {g g' : Nat → Nat} : ∀ B, (∀ k, k < B → g k = g' k) → sumTo B g = sumTo B g' := by
  intro B
  induction B with
  | zero => intro _; rfl
  | succ n ih =>
    intro h
    simp only [sumTo]
    rw [ih (fun k hk => h k (by omega)), h n (by omega)]

/-- Changing a function at one point. -/
theorem sumTo_update {g g' : Nat → Nat} {a : Nat} : ∀ B, a < B →
    (∀ k, k < B → k ≠ a → g' k = g k) → sumTo B g' + g a = sumTo B g + g' a := by
  intro B
  induction B with
  | zero => intro h; omega
  | succ n ih =>
    intro ha h
    simp only [sumTo]
    by_cases han : a = n
    · subst han
      rw [sumTo_congr a (fun k hk => h k (by omega) (by omega))]
      omega
    · have := ih (by omega) (fun k hk hka => h k (by omega) hka)
      rw [h n (by omega) (fun e => han e.symm)]
      omega

theorem sumTo_extend {g : Nat → Nat} {n : Nat} (h : ∀ k, n ≤ k → g k = 0) :
    ∀ B, n ≤ B → sumTo B g = sumTo n g := by
  intro B
  induction B with
  | zero => intro hB; have : n = 0 := by omega
            subst this; rfl
  | succ m ih =>
    intro hB
    by_cases hm : n = m + 1
    · subst hm; rfl
    · simp only [sumTo]
      rw [ih (by omega), h m (by omega)]; rfl

theorem sumTo_le {g : Nat → Nat} (h : ∀ k, g k ≤ 1) : ∀ n, sumTo n g ≤ n := by
  intro n
  induction n with
  | zero => exact Nat.le_refl _
  | succ n ih => simp only [sumTo]; have := h n; omega

/-! ## Weights of a vector map -/

/-- The sum of the weights `w` of the cells of a vector map. -/
def W {V : Type} (w : Option V → Nat) (m : VMap V) : Nat :=
  sumTo m.data.length (fun k => w (m.get k))

theorem W_eq {V : Type} {w : Option V → Nat} (hw : w none = 0) (m : VMap V) {B : Nat}
    (hB : m.data.length ≤ B) : W w m = sumTo B (fun k => w (m.get k)) :=
  (sumTo_extend (fun k hk => by simp only [m.get_none_of_ge hk, hw]) B hB).symm

theorem W_congr {V : Type} {w : Option V → Nat} (hw : w none = 0) {m m' : VMap V}
    (h : ∀ k, w (m'.get k) = w (m.get k)) : W w m' = W w m := by
  rw [W_eq hw m' (Nat.le_max_left _ m.data.length), W_eq hw m (Nat.le_max_right m'.data.length _)]
  exact sumTo_congr _ (fun k _ => h k)

/-- Changing a function at two points: change it at `a` first, then at `b`. -/
theorem sumTo_update2 {g g' : Nat → Nat} {a b : Nat} (hab : a ≠ b) (B : Nat) (ha : a < B)
    (hb : b < B) (h : ∀ k, k < B → k ≠ a → k ≠ b → g' k = g k) :
    sumTo B g' + g a + g b = sumTo B g + g' a + g' b := by
  have s1 := sumTo_update (g := g) (g' := fun k => if k = a then g' a else g k) B ha
    (fun k _ hk => if_neg hk)
  have s2 := sumTo_update (g := fun k => if k = a then g' a else g k) (g' := g') B hb
    (fun k hk hkb => by
      by_cases hka : k = a
      · rw [if_pos hka, hka]
      · rw [if_neg hka]; exact h k hk hka hkb)
  simp only [if_pos, if_neg hab.symm] at s1 s2
  omega

theorem W_update2 {V : Type} {w : Option V → Nat} (hw : w none = 0) {m m' : VMap V} {a b : Nat}
    (hab : a ≠ b) (h : ∀ k, k ≠ a → k ≠ b → m'.get k = m.get k) :
    W w m' + w (m.get a) + w (m.get b) = W w m + w (m'.get a) + w (m'.get b) := by
  have hB := Nat.le_max_left (max m'.data.length m.data.length) (max (a + 1) (b + 1))
  have hab' := Nat.le_max_right (max m'.data.length m.data.length) (max (a + 1) (b + 1))
  generalize max (max m'.data.length m.data.length) (max (a + 1) (b + 1)) = B at hB hab'
  rw [W_eq hw m' (B := B) (by omega), W_eq hw m (B := B) (by omega)]
  exact sumTo_update2 (g := fun k => w (m.get k)) (g' := fun k => w (m'.get k)) hab B
    (by omega) (by omega) (fun k _ hka hkb => by simp only [h k hka hkb])

/-! ## The measure: number of classes holding evidence -/

/-- The weight of a cell in `N`: 1 if it holds evidence. -/
def wN : Option (List TE) → Nat
  | some (_ :: _) => 1
  | _ => 0

/-- Number of cells holding a non-empty inference set. -/
def N (f : Forest) : Nat := W wN f.data

theorem wN_none : wN none = 0 := rfl

theorem wN_le_one (c : Option (List TE)) : wN c ≤ 1 := by
  rcases c with _ | _ | _ <;> simp [wN]

/-- A cell weighs what the data of its class weighs. -/
theorem wN_dataAt (f : Forest) (k : Nat) :
    wN (f.data.get k) = wN (some (DS.dataAt setM f k)) := by
  unfold DS.dataAt
  cases f.data.get k <;> rfl

theorem wN_some_pos {d : List TE} (h : d ≠ []) : wN (some d) = 1 := by
  cases d with
  | nil => exact absurd rfl h
  | cons _ _ => rfl

theorem wN_some_zero {d : List TE} (h : wN (some d) = 0) : d = [] := by
  cases d with
  | nil => rfl
  | cons _ _ => cases h

theorem wN_setUnion_le (a b : List TE) :
    wN (some (setUnion a b)) ≤ wN (some a) + wN (some b) := by
  cases a with
  | cons _ _ => exact Nat.le_trans (wN_le_one _) (Nat.le_add_right 1 _)
  | nil =>
    cases b with
    | nil => exact Nat.le_refl 0
    | cons _ _ => exact wN_le_one _

theorem length_setInsert_le (s : List TE) (e : TE) : (setInsert s e).length ≤ s.length + 1 := by
  unfold setInsert; split <;> simp

theorem length_setUnion_le (a b : List TE) : (setUnion a b).length ≤ a.length + b.length := by
  unfold setUnion
  induction b generalizing a with
  | nil => simp
  | cons e b ih =>
    rw [List.foldl_cons]
    have := ih (setInsert a e)
    have := length_setInsert_le a e
    simp only [List.length_cons]; omega

/-- Packed-free and `Equal`-free class data. -/
def PFData (f : Forest) : Prop := ∀ k d, f.data.get k = some d → ∀ e ∈ d, PF e = true

theorem pf_noEq {e : TE} (h : PF e = true) : NoEq e = true := by
  cases e <;> first | rfl | cases h

theorem dataAt_single {f : Forest} (hs : Single f) (k : Nat) :
    (DS.dataAt setM f k).length ≤ 1 := by
  unfold DS.dataAt
  cases hg : f.data.get k with
  | none => simp [setM]
  | some d0 => exact hs k d0 hg

/-- `N` never grows through a step; a step that breaks `Single` strictly lowers `N`. -/
def NRel (f f' : Forest) : Prop := N f' ≤ N f ∧ (Single f → Single f' ∨ N f' < N f)

theorem NRel.refl (f : Forest) : NRel f f := ⟨Nat.le_refl _, fun h => .inl h⟩

theorem NRel.trans {a b c : Forest} (h1 : NRel a b) (h2 : NRel b c) : NRel a c := by
  refine ⟨Nat.le_trans h2.1 h1.1, fun hs => ?_⟩
  rcases h1.2 hs with h | h
  · rcases h2.2 h with h' | h'
    · exact .inl h'
    · exact .inr (Nat.lt_of_lt_of_le h' h1.1)
  · exact .inr (Nat.lt_of_le_of_lt h2.1 h)

theorem union_pf {f f' : Forest} (hi : DS.Inv f) (hp : PFData f) (a b : Nat)
    (h : f.union setM a b = .ok f') : PFData f' ∧ NRel f f' := by
  obtain ⟨f'', e, i1, i2, i3, i4⟩ := DS.union_spec setM f a b hi
  rw [h] at e; injection e with e; subst e
  by_cases hab : DS.rootOf f a = DS.rootOf f b
  · have j2 := (i3 hab).2
    unfold NRel N PFData Single
    rw [j2]
    exact ⟨hp, Nat.le_refl _, .inl⟩
  · have j2 := (i4 hab).2
    simp only [show ∀ x y, setM.combine x y = setUnion x y from fun _ _ => rfl] at j2
    have hpA := dataAt_forall hp (DS.rootOf f a)
    have hpB := dataAt_forall hp (DS.rootOf f b)
    have lA := fun hs : Single f => dataAt_single hs (DS.rootOf f a)
    have lB := fun hs : Single f => dataAt_single hs (DS.rootOf f b)
    have hN := W_update2 (w := wN) wN_none (m := f.data) (m' := f'.data) hab
      (fun k h1 h2 => by rw [j2, if_neg h1, if_neg h2])
    rw [j2 (DS.rootOf f a), if_pos rfl, j2 (DS.rootOf f b), if_neg (Ne.symm hab), if_pos rfl,
      wN_dataAt, wN_dataAt, wN_none] at hN
    generalize DS.dataAt setM f (DS.rootOf f a) = A at j2 hpA hN lA
    generalize DS.dataAt setM f (DS.rootOf f b) = B at j2 hpB hN lB
    -- the only new cell holds `A ∪ B`; it weighs at most what `A` and `B` weighed together
    have hcell : ∀ k d, f'.data.get k = some d → d = setUnion A B ∨ f.data.get k = some d := by
      intro k d hk
      rw [j2] at hk
      split at hk
      · injection hk with hk; exact .inl hk.symm
      · split at hk
        · cases hk
        · exact .inr hk
    have hz := wN_setUnion_le A B
    have hlen := length_setUnion_le A B
    refine ⟨fun k d hk => (hcell k d hk).elim (fun e => e ▸ setUnion_forall hpA hpB) (hp k d),
      by unfold N; omega, fun hs => ?_⟩
    have lA := lA hs
    have lB := lB hs
    by_cases hxy : wN (some A) = 0 ∨ wN (some B) = 0
    · refine .inl (fun k d hk => (hcell k d hk).elim (fun e => ?_) (hs k d))
      -- one of the two sets is empty, so the union is no longer than the other
      rw [e]
      rcases hxy with h0 | h0
      · have hA := wN_some_zero h0
        subst hA
        simp only [List.length_nil] at hlen
        omega
      · have hB := wN_some_zero h0
        subst hB
        simp only [List.length_nil] at hlen
        omega
    · have := wN_le_one (some (setUnion A B))
      exact .inr (by unfold N; omega)

/-! ## One round on packed-free data -/

theorem foldClass_pf (root : Nat) (ev : List TE) (next : Nat) (r : FCAcc)
    (hev : ∀ e ∈ ev, PF e = true) (h : foldClass root ev next = .ok r) :
    PF r.1 = true ∧ r.2.2.2.1 = [] ∧ r.2.2.2.2 = [] := by
  cases ev with
  | nil => cases h
  | cons first rest =>
    rw [foldClass_cons] at h
    obtain ⟨i, _, _⟩ := foldlM_rel (fcStep root)
      (fun (a : FCAcc) => PF a.1 = true ∧ a.2.2.2.1 = [] ∧ a.2.2.2.2 = [])
      (fun _ _ => True) (fun _ _ => True) (fun _ => trivial) (fun _ _ _ _ _ => trivial)
      (fun _ _ _ _ _ => trivial) rest
      (by
        rintro ⟨cur, nx, eqs, js, nvs⟩ e s' he ⟨h1, h2, h3⟩ hs
        simp only [] at h1 h2 h3
        subst h2 h3
        obtain ⟨m, hm, g1, _, g3, g4, _⟩ := merge_pf_indep cur e h1
          (hev e (List.mem_cons_of_mem _ he)) root nx
        simp only [fcStep, hm] at hs
        injection hs with hs; subst hs
        refine ⟨⟨?_, ?_, ?_⟩, trivial, trivial⟩
        · simp only []; rw [g1]; exact outcome_pf cur e h1 (hev e (List.mem_cons_of_mem _ he))
        · simp only []; rw [g3]; rfl
        · simp only []; rw [g4]; rfl)
      (first, next, [], [], []) r ⟨hev _ (List.mem_cons_self ..), rfl, rfl⟩ h
    exact i

theorem loop_pf {o : Orders} (ho : OrdersOk o) (l : List (Nat × List TE)) (acc acc' : RoundAcc)
    (hnd : (l.map (·.1)).Nodup) (hi : DS.Inv acc.forest) (hpf : PFData acc.forest)
    (hD : ∀ p ∈ l, acc.forest.data.get p.1 = some p.2 ∧ DS.rootOf acc.forest p.1 = p.1)
    (hall : ∀ k d, acc.forest.data.get k = some d → (k, d) ∈ l)
    (h : l.foldlM (roundStep o) acc = .ok acc') :
    PFData acc'.forest ∧ Single acc'.forest ∧ N acc'.forest = N acc.forest ∧
      acc'.judgements = acc.judgements ∧ acc'.newVars = acc.newVars := by
  have hcells := loop_cells l acc acc' hnd hi hD h
  have hev : ∀ p ∈ l, ∀ e ∈ o.tes p.2, PF e = true := fun p hp e he =>
    hpf p.1 p.2 (hD p hp).1 e ((ho.2.1 p.2).mem_iff.mp he)
  refine ⟨fun k d hk => ?_, single_of_cells hall hcells, W_congr wN_none (fun k => ?_), ?_⟩
  · rcases hcells k with ⟨p, hp, rfl, _, r, nx, hr, hc⟩ | ⟨_, hsame⟩
    · rw [hc] at hk; injection hk with hk; subst hk
      intro x hx
      rw [List.mem_singleton.mp hx]
      exact (foldClass_pf p.1 _ nx r (hev p hp) hr).1
    · rw [hsame] at hk; exact hpf k d hk
  · -- an overwritten cell held evidence before and holds one piece now
    rcases hcells k with ⟨p, hp, rfl, hne, r, nx, hr, hc⟩ | ⟨_, hsame⟩
    · rw [hc, (hD p hp).1, wN_some_pos hne, wN_some_pos (List.cons_ne_nil _ _)]
    · rw [hsame]
  · have := foldlM_rel (roundStep o) (fun _ => True)
      (fun a b => b.judgements = a.judgements ∧ b.newVars = a.newVars) (fun _ _ => True)
      (fun _ => ⟨rfl, rfl⟩) (fun _ _ _ h1 h2 => ⟨h2.1.trans h1.1, h2.2.trans h1.2⟩)
      (fun _ _ _ _ _ => trivial) l
      (fun s x s' hx _ hs => by
        refine ⟨trivial, ?_, trivial⟩
        rcases roundStep_cases hs with ⟨_, rfl⟩ | ⟨_, cur, nx, eqs, js, nvs, f', h1, _, rfl⟩
        · exact ⟨rfl, rfl⟩
        · obtain ⟨_, g2, g3⟩ := foldClass_pf x.1 _ _ _ (hev x hx) h1
          simp only [] at g2 g3
          subst g2 g3
          exact ⟨List.append_nil _, List.append_nil _⟩)
      acc acc' trivial h
    exact this.2.1

theorem loop_no_progress {o : Orders} (ho : OrdersOk o) (l : List (Nat × List TE))
    (acc acc' : RoundAcc) (h : l.foldlM (roundStep o) acc = .ok acc')
    (hp : acc.progress = false) (hl : ∀ p ∈ l, p.2.length ≤ 1) : acc'.progress = false := by
  have := foldlM_rel (roundStep o) (fun a => a.progress = false) (fun _ _ => True)
    (fun _ _ => True) (fun _ => trivial) (fun _ _ _ _ _ => trivial) (fun _ _ _ _ _ => trivial) l
    (fun s x s' hx hs h => by
      refine ⟨?_, trivial, trivial⟩
      rcases roundStep_cases h with ⟨_, rfl⟩ | ⟨_, cur, nx, eqs, js, nvs, f', _, _, rfl⟩
      · exact hs
      · have h1 := (ho.2.1 x.2).length_eq
        have h2 := hl x hx
        simp only [hs, Bool.false_or, decide_eq_false_iff_not]
        omega)
    acc acc' hp h
  exact this.1

theorem sets_pf {f : Forest} (hi : DS.Inv f) (hp : PFData f) :
    PFData (f.sets setM).1 ∧ N (f.sets setM).1 = N f ∧ (Single f → Single (f.sets setM).1) := by
  obtain ⟨f1, l, e, i1, i2, i3, _, i5, i6, i7⟩ := DS.sets_spec setM f hi
  rw [e]; simp only []
  refine ⟨?_, ?_, ?_⟩
  · intro k d hk; rw [i7] at hk
    split at hk
    · injection hk with hk; subst hk
      exact dataAt_forall hp k
    · exact hp k d hk
  · apply W_congr wN_none
    intro k; rw [i7]
    split
    · exact (wN_dataAt f k).symm
    · rfl
  · intro hs k d hk; rw [i7] at hk
    split at hk
    · injection hk with hk; subst hk
      exact dataAt_single hs k
    · exact hs k d hk

theorem roundTail_pf {o : Orders} (ho : OrdersOk o) {acc0 acc : RoundAcc}
    (h2 : acc0.judgements = []) (h3 : acc0.newVars = []) (h : roundTail o acc0 = .ok acc) :
    (o.eqs (dedup acc0.eqs)).foldlM unionStep acc0.forest = .ok acc.forest ∧
      acc.progress = acc0.progress := by
  rw [roundTail_quiet ho acc0 h2 h3] at h
  split at h
  · cases h
  · rename_i f3 e3
    injection h with h; subst h
    exact ⟨e3, rfl⟩

/-- One round on packed-free data: the data stays packed-free, the number of classes holding
evidence never grows, and if the result has a class with two pieces then that number dropped. -/
theorem round_pf {o : Orders} (ho : OrdersOk o) {f : Forest} (h : UInv f) (hp : PFData f)
    {next counter : Nat} {acc : RoundAcc} (hr : round o f next counter = .ok acc) :
    PFData acc.forest ∧ N acc.forest ≤ N f ∧ (Single acc.forest ∨ N acc.forest < N f) ∧
      (Single f → acc.progress = false) := by
  obtain ⟨acc0, e0, i0, r0⟩ := roundLoop_inv ho h next counter
  rw [round_eq, e0] at hr
  simp only [] at hr
  obtain ⟨s1, s2, s3, s4, s5⟩ := uinv_sets h
  obtain ⟨p1, p2, p3⟩ := sets_pf h.1 hp
  obtain ⟨g1, g2, g3, g4, g5⟩ := loop_pf ho (f.sets setM).2
    { forest := (f.sets setM).1, next := next, counter := counter } acc0 s5 s1.1 p1
    (fun p hp => ⟨(s3 p hp).2.1, by simp only []; rw [s2]; exact (s3 p hp).2.2⟩) s4 e0
  simp only [] at g3 g4 g5
  obtain ⟨t1, t2⟩ := roundTail_pf ho g4 g5 hr
  obtain ⟨⟨_, u1⟩, u2, _⟩ := foldlM_rel unionStep (fun f => DS.Inv f ∧ PFData f) NRel
    (fun _ _ => True) NRel.refl (fun _ _ _ => NRel.trans) (fun _ _ _ _ _ => trivial)
    (o.eqs (dedup acc0.eqs))
    (fun s p s' _ hs hstep => by
      have hu : s.union setM p.1 p.2 = .ok s' := forestFault_ok.mp hstep
      obtain ⟨s'', e, a, _⟩ := inv_union hs.1 p.1 p.2
      rw [hu] at e; injection e with e; subst e
      obtain ⟨b, c⟩ := union_pf hs.1 hs.2 p.1 p.2 hu
      exact ⟨⟨a, b⟩, c, trivial⟩)
    acc0.forest acc.forest ⟨i0.1.1, g1⟩ t1
  refine ⟨u1, ?_, ?_, ?_⟩
  · rw [← p2, ← g3]; exact u2.1
  · rw [← p2, ← g3]; exact u2.2 g2
  · intro hs
    rw [t2]
    apply loop_no_progress ho _ _ _ e0 rfl
    intro p hp
    exact p3 hs p.1 p.2 (s3 p hp).2.1

/-- The loop terminates: one spare round when every class already holds one piece, otherwise one
round per class holding evidence plus two. -/
theorem unifyLoop_terminates {o : Orders} (ho : OrdersOk o) :
    ∀ (fuel : Nat) (f : Forest) (next counter rounds : Nat), UInv f → PFData f →
      ((Single f ∧ 1 ≤ fuel) ∨ N f + 2 ≤ fuel) →
      ∀ e, unifyLoop o fuel f next counter rounds ≠ .error e := by
  intro fuel
  induction fuel with
  | zero => intro f next counter rounds _ _ h; omega
  | succ fuel ih =>
    intro f next counter rounds hf hp hfuel e
    obtain ⟨acc, er, i, _⟩ := round_spec ho hf next counter
    obtain ⟨q1, q2, q3, q4⟩ := round_pf ho hf hp er
    rw [unifyLoop, er]
    simp only []
    cases hpr : acc.progress with
    | false => simp
    | true =>
      simp only [if_true]
      apply ih acc.forest acc.next acc.counter (rounds + 1) i q1
      rcases hfuel with ⟨hs, _⟩ | hfuel
      · rw [q4 hs] at hpr; cases hpr
      · rcases q3 with hs | hlt
        · left; exact ⟨hs, by omega⟩
        · right; omega

/-! ## `initForest` on packed-free input -/

/-- true unless the expression is `.packed _ _` -/
def NP : TE → Bool
  | .packed _ _ => false
  | _ => true

/-- No packed encoding anywhere in the input. -/
def NoPacked (nvars : Nat) (infs : Nat → List TE) : Prop :=
  ∀ v, v < nvars → ∀ e ∈ infs v, NP e = true

theorem pf_of_noEq_np {e : TE} (h1 : NoEq e = true) (h2 : NP e = true) : PF e = true := by
  cases e <;> first | rfl | (cases h1; done) | (cases h2; done)

/-- What `initForest` establishes on packed-free input. That roots and data keys stay below `nvars`
is carried for the sake of `N f ≤ nvars` (`N_le_of_keys`), the bound on the rounds. -/
def InitI (nvars : Nat) (f : Forest) : Prop :=
  UInv f ∧ PFData f ∧ (∀ w, w < nvars → DS.rootOf f w < nvars) ∧
    (∀ k d, f.data.get k = some d → k < nvars)

theorem initStep_pf {nvars v : Nat} (hv : v < nvars) {f f' : Forest} {e : TE}
    (he : NP e = true) (hi : InitI nvars f) (h : initStep v f e = .ok f') : InitI nvars f' := by
  obtain ⟨hu, hp, hr, hd⟩ := hi
  rcases initStep_cases h with ⟨id, rfl, hun⟩ | ⟨hne, hadd⟩
  · obtain ⟨f'', e1, u1, _, _⟩ := uinv_union hu v id
    rw [hun] at e1; injection e1 with e1; subst e1
    obtain ⟨p1, _⟩ := union_pf hu.1 hp v id hun
    obtain ⟨f'', e, i1, i2, i3, i4⟩ := DS.union_spec setM f v id hu.1
    rw [hun] at e; injection e with e; subst e
    refine ⟨u1, p1, ?_, ?_⟩
    · intro w hw
      by_cases hab : DS.rootOf f v = DS.rootOf f id
      · rw [(i3 hab).1]; exact hr w hw
      · rw [(i4 hab).1]
        split
        · exact hr v hv
        · exact hr w hw
    · intro k d hk
      by_cases hab : DS.rootOf f v = DS.rootOf f id
      · rw [(i3 hab).2] at hk; exact hd k d hk
      · rw [(i4 hab).2] at hk
        split at hk
        · rename_i hk'; rw [hk']; exact hr v hv
        · split at hk
          · cases hk
          · exact hd k d hk
  · obtain ⟨f'', e1, u1, u2, u3⟩ := uinv_addData hu v [e] (by simpa using hne)
    rw [hadd] at e1; injection e1 with e1; subst e1
    refine ⟨u1, ?_, ?_, ?_⟩
    · intro k d hk; rw [u3] at hk
      split at hk
      · injection hk with hk; subst hk
        exact setUnion_forall (dataAt_forall hp _)
          (fun x hx => by rw [List.mem_singleton.mp hx]; exact pf_of_noEq_np hne he)
      · exact hp k d hk
    · intro w hw; rw [u2]; exact hr w hw
    · intro k d hk; rw [u3] at hk
      split at hk
      · rename_i hk'; rw [hk']; exact hr v hv
      · exact hd k d hk

theorem initForest_pf {o : Orders} (ho : OrdersOk o) {nvars : Nat} {infs : Nat → List TE}
    (hnp : NoPacked nvars infs) {f : Forest}
    (h : initForest o (List.range nvars) infs = .ok f) : InitI nvars f := by
  rw [initForest_eq] at h
  obtain ⟨u0, r0, d0⟩ := insertAll_uinv (o.vars (List.range nvars)) uinv_empty
  have hempty : ∀ k, ({} : Forest).data.get k = none := fun k => DS.get_empty k
  have h0 : InitI nvars ((o.vars (List.range nvars)).foldl (fun f v => f.insert v) {}) := by
    refine ⟨u0, ?_, ?_, ?_⟩
    · intro k d hk; rw [d0, hempty] at hk; cases hk
    · intro w hw
      have : DS.rootOf ({} : Forest) w = w := DS.rootOf_absent DS.inv_empty (DS.get_empty w)
      rw [r0, this]; exact hw
    · intro k d hk; rw [d0, hempty] at hk; cases hk
  have := foldlM_rel (fun (f : Forest) v => (o.tes (infs v)).foldlM (initStep v) f)
    (InitI nvars) (fun _ _ => True) (fun _ _ => True) (fun _ => trivial)
    (fun _ _ _ _ _ => trivial) (fun _ _ _ _ _ => trivial) (o.vars (List.range nvars))
    (fun s v s' hv hs hstep => by
      have hv' : v < nvars := List.mem_range.mp ((ho.1 _).mem_iff.mp hv)
      have := foldlM_rel (initStep v) (InitI nvars) (fun _ _ => True) (fun _ _ => True)
        (fun _ => trivial) (fun _ _ _ _ _ => trivial) (fun _ _ _ _ _ => trivial)
        (o.tes (infs v))
        (fun s e s' he hs hstep =>
          ⟨initStep_pf hv' (hnp v hv' e ((ho.2.1 _).mem_iff.mp he)) hs hstep, trivial, trivial⟩)
        s s' hs hstep
      exact ⟨this.1, trivial, trivial⟩)
    _ f h0 h
  exact this.1

theorem N_le_of_keys {f : Forest} {n : Nat} (h : ∀ k d, f.data.get k = some d → k < n) :
    N f ≤ n := by
  unfold N
  rw [W_eq wN_none f.data (Nat.le_max_left _ n),
    sumTo_extend (n := n) (fun k hk => by
      cases hg : f.data.get k with
      | none => rfl
      | some d => have := h k d hg; omega) _ (Nat.le_max_right _ _)]
  exact sumTo_le (fun k => wN_le_one _) n

/-- Termination without packed encodings, with the explicit bound `nvars + 2` on the number of
rounds: `unify` cannot run out of fuel (and by `unifyLoop_spec` cannot fail in any other way). -/
theorem unify_terminates_nopacked_bound {o : Orders} {nvars : Nat} {infs : Nat → List TE}
    (ho : OrdersOk o) (hnp : NoPacked nvars infs) :
    ∀ fuel, nvars + 2 ≤ fuel → ∀ e, unify o fuel nvars infs ≠ .error e := by
  intro fuel hfuel e
  obtain ⟨f0, e0, _⟩ := initForest_spec o (List.range nvars) infs
  obtain ⟨hu, hp, _, hd⟩ := initForest_pf ho hnp e0
  unfold unify
  rw [e0]
  simp only []
  apply unifyLoop_terminates ho fuel f0 nvars 0 0 hu hp
  right
  have := N_le_of_keys hd
  omega

theorem unify_terminates_nopacked {o : Orders} {nvars : Nat} {infs : Nat → List TE}
    (ho : OrdersOk o) (hnp : NoPacked nvars infs) :
    ∃ bound, ∀ fuel ≥ bound, ∀ e, unify o fuel nvars infs ≠ .error e :=
  ⟨nvars + 2, unify_terminates_nopacked_bound ho hnp⟩

/-- Hence on packed-free input `unify` returns a result whenever `fuel ≥ nvars + 2`. -/
theorem unify_ok_nopacked {o : Orders} {nvars : Nat} {infs : Nat → List TE}
    (ho : OrdersOk o) (hnp : NoPacked nvars infs) (fuel : Nat) (hfuel : nvars + 2 ≤ fuel) :
    ∃ f n r, unify o fuel nvars infs = .ok (f, n, r) := by
  cases h : unify o fuel nvars infs with
  | error e => exact absurd h (unify_terminates_nopacked_bound ho hnp fuel hfuel e)
  | ok x => obtain ⟨f, n, r⟩ := x; exact ⟨f, n, r, rfl⟩

end SLE.Unify
