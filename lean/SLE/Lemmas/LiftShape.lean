import SLE.Model.Lift
import SLE.Lemmas.Fold
/-!
What the lifting passes of `Model/Lift.lean` have in common, stated once.

Every fuel-recursive pass `P` returns its argument at fuel `0` and, at `fuel + 1` on a node, either
recognises the node and puts a new head over `P fuel` of some parts of it, or rebuilds the node
over `P fuel` of its kids.  So (1) a proof about `P` is an induction on the fuel with a case split
on the tree (`fuelRec`); (2) `P` keeps every predicate on trees that is inherited by kids and
survives a change of kids under the same head (`TreeInv`), provided the heads the recognised arms
create can be made (`Makes`); (3) `P` does not depend on the fuel once the fuel exceeds the node
count, because the parts are smaller than the node (`agree_of_step`).
-/
namespace SLE.LiftShape
open SLE SLE.SV SLE.Lift

theorem forall_mem_two {α : Type} {P : α → Prop} {a b : α} : (∀ x ∈ [a, b], P x) ↔ P a ∧ P b :=
  List.forall_mem_cons.trans (and_congr_right fun _ => List.forall_mem_singleton)

/-! ### `mapE` -/

theorem mapE_total {α β ε : Type} (f : α → Except ε β) :
    ∀ l : List α, (∀ x ∈ l, ∃ y, f x = .ok y) → ∃ r, mapE f l = .ok r
  | [], _ => ⟨[], rfl⟩
  | x :: xs, hl => by
    obtain ⟨y, hy⟩ := hl x (by simp)
    obtain ⟨r, hr⟩ := mapE_total f xs (fun z hz => hl z (by simp [hz]))
    exact ⟨y :: r, by simp only [mapE, hy, hr]⟩

theorem mapE_mem {α β ε : Type} (f : α → Except ε β) :
    ∀ (l : List α) (r : List β), mapE f l = .ok r → ∀ y ∈ r, ∃ x ∈ l, f x = .ok y
  | [], r, h => by
    cases h
    intro y hy; cases hy
  | x :: xs, r, h => by
    simp only [mapE] at h
    split at h
    · cases h
    · rename_i y hy
      split at h
      · cases h
      · rename_i ys hys
        cases h
        intro z hz
        rcases List.mem_cons.mp hz with rfl | hz
        · exact ⟨x, List.mem_cons_self, hy⟩
        · obtain ⟨x', hx', hfx⟩ := mapE_mem f xs ys hys z hz
          exact ⟨x', List.mem_cons_of_mem _ hx', hfx⟩

theorem mapE_congr {α β ε : Type} {f g : α → Except ε β} :
    ∀ {l : List α}, (∀ x ∈ l, f x = g x) → mapE f l = mapE g l
  | [], _ => rfl
  | x :: xs, h => by
    simp only [mapE]
    rw [h x List.mem_cons_self, mapE_congr (fun y hy => h y (List.mem_cons_of_mem _ hy))]

theorem mapE_id {α ε : Type} {f : α → Except ε α} :
    ∀ {l : List α}, (∀ x ∈ l, f x = .ok x) → mapE f l = .ok l
  | [], _ => rfl
  | x :: xs, h => by
    simp only [mapE, h x List.mem_cons_self,
      mapE_id (fun y hy => h y (List.mem_cons_of_mem _ hy))]

/-! ### induction on the fuel -/

/-- The induction that fits a pass: fuel `0`; and a node at `fuel + 1`, with the statement known
of every tree at `fuel`. -/
theorem fuelRec {motive : Nat → SV → Prop} (zero : ∀ v, motive 0 v)
    (succ : ∀ fuel k a ks s, (∀ t, motive fuel t) → motive (fuel + 1) (.node k a ks s)) :
    ∀ fuel t, motive fuel t := by
  intro fuel
  induction fuel with
  | zero => exact zero
  | succ fuel ih => intro t; cases t with | node k a ks s => exact succ fuel k a ks s ih

theorem nodeCount_mem_le : ∀ {ks : List SV} {c : SV}, c ∈ ks → nodeCount c ≤ nodeCountList ks
  | x :: xs, c, h => by
    simp only [nodeCountList]
    rcases List.mem_cons.mp h with rfl | h
    · omega
    · have := nodeCount_mem_le h; omega

/-- Two fuels above the node count give the same result, for a function of fuel and tree whose
value at `fuel + 1` on a node is determined by its values at `fuel` on trees smaller than the
node. -/
theorem agree_of_step {α : Type} {P : Nat → SV → α}
    (step : ∀ f1 f2 k a ks s, (∀ t, nodeCount t ≤ nodeCountList ks → P f1 t = P f2 t) →
      P (f1 + 1) (.node k a ks s) = P (f2 + 1) (.node k a ks s)) :
    ∀ f1 f2 t, nodeCount t < f1 → nodeCount t < f2 → P f1 t = P f2 t := by
  intro f1
  induction f1 with
  | zero => intros; omega
  | succ f1 ih =>
    intro f2 t h1 h2
    cases f2 with
    | zero => omega
    | succ f2 =>
      obtain ⟨k, a, ks, s⟩ := t
      simp only [nodeCount] at h1 h2
      exact step f1 f2 k a ks s (fun t ht => ih f2 t (by omega) (by omega))

/-! ### predicates that the passes keep -/

/-- A predicate on trees that the kids of a node inherit and that a node keeps when its kids are
replaced by others of which it holds (`NoP p`: no node of a forbidden kind; `WF`: every recorded
size is the node count). -/
structure TreeInv (I : SV → Prop) : Prop where
  kids : ∀ {k a ks s}, I (.node k a ks s) → ∀ x ∈ ks, I x
  head : ∀ {k a ks s ks'}, I (.node k a ks s) → (∀ x ∈ ks', I x) → I (rebuild k a ks')

/-- a node of kind `k` with attributes `a` may be put over any kids of which `I` holds -/
def Makes (I : SV → Prop) (k : Kind) (a : List Nat) : Prop :=
  ∀ ks, (∀ x ∈ ks, I x) → I (rebuild k a ks)

namespace TreeInv
variable {I : SV → Prop} (hI : TreeInv I)
include hI

/-- the arm every pass ends in: the node over the images of its kids -/
theorem map {k a ks s} (ht : I (.node k a ks s)) {f : SV → SV} (hf : ∀ x, I x → I (f x)) :
    I (rebuild k a (ks.map f)) :=
  hI.head ht (List.forall_mem_map.2 fun y hy => hf y (hI.kids ht y hy))

/-- the same arm of the passes that can fail -/
theorem mapE {k a ks s} (ht : I (.node k a ks s)) {f : SV → Except LFault SV}
    (hf : ∀ x y, I x → f x = .ok y → I y) {t' : SV}
    (h : (match Lift.mapE f ks with
          | .ok ks' => Except.ok (rebuild k a ks')
          | .error e => .error e) = .ok t') : I t' := by
  split at h
  · rename_i ks' hks'
    cases h
    refine hI.head ht fun y hy => ?_
    obtain ⟨x, hx, hxy⟩ := mapE_mem _ _ _ hks' y hy
    exact hf x y (hI.kids ht x hx) hxy
  · cases h

theorem rewrap {t : SV} (ht : I t) : I (rebuild t.kind t.attrs t.kids) := by
  cases t with
  | node k a ks s => exact hI.head ht (hI.kids ht)

end TreeInv

mutual
theorem fold_inv {I : SV → Prop} (hI : TreeInv I) (hk : ∀ w, I (mkKnownNat w)) :
    ∀ t, I t → I (fold t)
  | .node k a ks s, ht => by
    simp only [fold]
    rcases foldNode_shape k a (foldList ks) with ⟨w, h, _⟩ | h
    · rw [h]; exact hk w.toNat
    · rw [h]; exact hI.head ht (foldList_inv hI hk ks (hI.kids ht))
theorem foldList_inv {I : SV → Prop} (hI : TreeInv I) (hk : ∀ w, I (mkKnownNat w)) :
    ∀ l : List SV, (∀ x ∈ l, I x) → ∀ x ∈ foldList l, I x
  | [], _ => by simp [foldList]
  | y :: ys, hl => by
    simp only [foldList, List.forall_mem_cons] at hl ⊢
    exact ⟨fold_inv hI hk y hl.1, foldList_inv hI hk ys hl.2⟩
end

mutual
/-- `transform f` keeps `I` if what `f` returns can be put together -/
theorem transform_inv {I : SV → Prop} (hI : TreeInv I) (f : Transformer)
    (hf : ∀ {k a ks s k' a' ks'}, I (.node k a ks s) → f k a ks = some (k', a', ks') →
      I (rebuild k' a' ks')) :
    ∀ t, I t → I (transform f t)
  | .node k a ks s, ht => by
    simp only [transform]
    split
    · exact hf ht ‹_›
    · exact hI.head ht (transformList_inv hI f hf ks (hI.kids ht))
theorem transformList_inv {I : SV → Prop} (hI : TreeInv I) (f : Transformer)
    (hf : ∀ {k a ks s k' a' ks'}, I (.node k a ks s) → f k a ks = some (k', a', ks') →
      I (rebuild k' a' ks')) :
    ∀ l : List SV, (∀ x ∈ l, I x) → ∀ x ∈ transformList f l, I x
  | [], _ => by simp [transformList]
  | y :: ys, hl => by
    simp only [transformList, List.forall_mem_cons] at hl ⊢
    exact ⟨transform_inv hI f hf y hl.1, transformList_inv hI f hf ys hl.2⟩
end

/-! ### leaf functions of the passes -/

/-- what `getShift` shifts is the value itself or one of its kids -/
theorem getShift_fst (v : SV) : (getShift v).1 = v ∨ (getShift v).1 ∈ v.kids := by
  unfold getShift
  split
  · right; split <;> simp [SV.kids]
  · repeat' split
    all_goals first | exact Or.inl rfl | exact Or.inr (by simp [SV.kids])
  · exact Or.inl rfl

theorem unpickOrs_inv {I : SV → Prop} (hkids : ∀ {k a ks s}, I (.node k a ks s) → ∀ x ∈ ks, I x) :
    ∀ fuel v, I v → ∀ e ∈ unpickOrs fuel v, I e := by
  intro fuel
  induction fuel with
  | zero => intro v hv e he; rw [unpickOrs, List.mem_singleton] at he; exact he ▸ hv
  | succ fuel ih =>
    intro v hv e he
    simp only [unpickOrs] at he
    split at he
    · rcases List.mem_append.mp he with he | he
      · exact ih _ (hkids hv _ (by simp)) e he
      · exact ih _ (hkids hv _ (by simp)) e he
    · rw [List.mem_singleton] at he; exact he ▸ hv

/-! ### the span sort of `liftPacked` -/

theorem insertSpan_mem (s x : Nat × Nat × SV) :
    ∀ l, x ∈ insertSpan s l → x = s ∨ x ∈ l
  | [], h => by simp only [insertSpan, List.mem_singleton] at h; exact Or.inl h
  | t :: r, h => by
    simp only [insertSpan] at h
    split at h
    · exact List.mem_cons.mp h
    · rcases List.mem_cons.mp h with h | h
      · exact Or.inr (h ▸ List.mem_cons_self)
      · exact (insertSpan_mem s x r h).imp_right (List.mem_cons_of_mem _)

theorem sortSpans_mem (x : Nat × Nat × SV) (l : List (Nat × Nat × SV)) (h : x ∈ sortSpans l) :
    x ∈ l := by
  have aux : ∀ (l acc : List (Nat × Nat × SV)),
      x ∈ l.foldl (fun acc s => insertSpan s acc) acc → x ∈ acc ∨ x ∈ l := by
    intro l
    induction l with
    | nil => intro acc h; exact Or.inl h
    | cons s l ih =>
      intro acc h
      rcases ih _ h with h | h
      · rcases insertSpan_mem s x acc h with rfl | h
        · exact Or.inr List.mem_cons_self
        · exact Or.inl h
      · exact Or.inr (List.mem_cons_of_mem _ h)
  rcases aux l [] h with h | h
  · cases h
  · exact h

end SLE.LiftShape
