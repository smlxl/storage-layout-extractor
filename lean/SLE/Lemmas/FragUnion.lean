import SLE.Lemmas.Independence
import SLE.Lemmas.UnifyJoin
import SLE.Lemmas.Layout
import SLE.Lemmas.IdiomsE2E
/-!
C11, last step for word-only evidence: the layout of two independent fragments is the union of
their layouts.

`Independence.lean` carries separation through registration, the rules, the initial forest and the
whole unification; `UnifyJoin.lean` gives, for word-only evidence, a closed form of the unification
result (classes = equality closure, class type = fold of all the members' evidence) and its
independence of the enumeration order (`ev_eq`).  Here the two are put together.  Standing
hypotheses: `Disjoint vs ws` and `WordOnly (infOf (vs ++ ws)) (nvarsOf (vs ++ ws))` (only the joint
judgement set is assumed word-only; `Frag.wordOnly` derives it for each fragment alone).

`Frag vs ws us ρ` is what is used of a fragment `us` of `vs ++ ws` and of its renaming `ρ` into the
joint numbering; everything up to the layout loop is proved for a `Frag` and instantiated at
`vs` with `rA vs ws` and `ws` with `rB vs ws` (`frags`).  The evidence set of the class of `ρ a` in
the joint input is that of `a` in the fragment's input, and both runs resolve the class to
`foldMerge` of an enumeration of that set.  With words, `any` and `conflict` only there is no
absorbing constructor, hence no bad triple, and the class fold is order-free (`foldMerge_perm`),
contradictory evidence included: `Frag.evidence_eq` holds for all classes, and the statements that
assume `OrderFree` ("compatible or contains a contradictory pair") do not use it.  `type_of` follows
because every declared variable's root holds an inference set (`WordResult.present`), the layout
loop because `abiTypeFor` on a word reads nothing else.
-/
namespace SLE.FragUnion
open SLE SLE.SV SLE.TC SLE.Containers SLE.Unify SLE.Merge SLE.MergeLaws SLE.Layout SLE.Join SLE.OrderFacts
open SLE.Independence SLE.UnifyJoin
open SLE.Rename (analyseLifted)
set_option linter.unusedVariables false
set_option linter.unusedSimpArgs false

theorem idOrders_ok : OrdersOk idOrders :=
  ⟨fun _ => .refl _, fun _ => .refl _, fun _ => .refl _, fun _ => .refl _⟩

/-- The order-free cases: the evidence of the class of `v` has a common upper bound, or contains
a contradictory pair. -/
def OrderFree (infs : Nat → List TE) (nvars v : Nat) : Prop :=
  (∃ T, ∀ e, ClassEvIn infs nvars v e → wordLe e T = true) ∨
  (∃ ea eb, ClassEvIn infs nvars v ea ∧ ClassEvIn infs nvars v eb ∧ conflicts ea eb = true)

/-! ## A fragment inside the joint program -/

/-- `us` is one of the two fragments of `vs ++ ws` and `ρ` renames its type variables into the
joint numbering: declared variables stay declared, judgements are carried along, and the evidence
of a class of the joint input that meets the fragment is the renamed evidence of the fragment's
class. -/
structure Frag (vs ws us : List SV) (ρ : Nat → Nat) : Prop where
  lt : ∀ {a}, a < nvarsOf us → ρ a < nvarsOf (vs ++ ws)
  mem : ∀ {a e}, e ∈ infOf us a → mapTE ρ e ∈ infOf (vs ++ ws) (ρ a)
  ev : ∀ {a}, a < nvarsOf us → ∀ e,
    ClassEvIn (infOf (vs ++ ws)) (nvarsOf (vs ++ ws)) (ρ a) e ↔
      ∃ e', ClassEvIn (infOf us) (nvarsOf us) a e' ∧ e = mapTE ρ e'

theorem mem_infOf_map {vs ws us : List SV} {ρ : Nat → Nat} (hρ : Function.Injective ρ)
    (hsub : ∀ a x, InfMem ((judgementsOf us).map (mapJ ρ)) a x → InfMem (judgementsOf (vs ++ ws)) a x)
    {a : Nat} {e : TE} (h : e ∈ infOf us a) : mapTE ρ e ∈ infOf (vs ++ ws) (ρ a) := by
  have hq : InfMem (judgementsOf us) a e := by
    unfold infOf at h; exact (OrderFacts.mem_infSets _ _ _).mp h
  exact ((mem_infOf_iff (vs ++ ws) _ _).mpr (hsub _ _ ((InfMem.map hρ _ a _).mpr ⟨e, rfl, hq⟩))).2

/-- Both parts of a `Disjoint` pair are fragments of the joint program (`I3_initial_forest`). -/
theorem frags (vs ws : List SV) (hd : Disjoint vs ws) :
    Frag vs ws vs (rA vs ws) ∧ Frag vs ws ws (rB vs ws) := by
  obtain ⟨f, fA, fB, ef, efA, efB, _, _, hA, _, hB⟩ :=
    I3_initial_forest idOrders_ok idOrders_ok idOrders_ok vs ws hd
  have r := initForest_decl idOrders_ok ef
  have rA' := initForest_decl idOrders_ok efA
  have rB' := initForest_decl idOrders_ok efB
  have hN := nvarsOf_append vs ws hd
  have hJ := judgementsOf_append vs ws hd
  constructor
  · refine ⟨fun ha => by rw [hN]; exact rA_lt vs ws ha,
      mem_infOf_map (rA_injective vs ws) (fun a x hq => by rw [hJ, InfMem.append]; exact .inl hq),
      fun ha e => ?_⟩
    rw [classEvIn_iff_init r, hA _ ha e]
    simp only [classEvIn_iff_init rA']
  · refine ⟨fun hb => by rw [hN]; exact rB_lt vs ws hb,
      mem_infOf_map (rB_injective vs ws) (fun a x hq => by rw [hJ, InfMem.append]; exact .inr hq),
      fun hb e => ?_⟩
    rw [classEvIn_iff_init r, hB _ hb e]
    simp only [classEvIn_iff_init rB']

theorem frag_left (vs ws : List SV) (hd : Disjoint vs ws) : Frag vs ws vs (rA vs ws) :=
  (frags vs ws hd).1

theorem frag_right (vs ws : List SV) (hd : Disjoint vs ws) : Frag vs ws ws (rB vs ws) :=
  (frags vs ws hd).2

theorem mapTE_wa {ρ : Nat → Nat} {e : TE} (h : (∃ w u, mapTE ρ e = .word w u) ∨ mapTE ρ e = .any) :
    (∃ w u, e = .word w u) ∨ e = .any := by
  cases e <;> simp [mapTE] at h ⊢

theorem mapTE_wac {ρ : Nat → Nat} {e : TE} (h : WAC e) : mapTE ρ e = e := by
  rcases h with ⟨w, u, rfl⟩ | rfl | rfl <;> rfl

theorem equal_lt (us : List SV) {a b : Nat} (h : .equal b ∈ infOf us a) : b < nvarsOf us := by
  have hq : InfMem (judgementsOf us) a (.equal b) := by
    unfold infOf at h; exact (OrderFacts.mem_infSets _ _ _).mp h
  exact occ_lt (judgementsOf_bound us) (InfMem.occ_equal hq)

section
variable {vs ws us : List SV} {ρ : Nat → Nat} (s : Frag vs ws us ρ)
  (hw : WordOnly (infOf (vs ++ ws)) (nvarsOf (vs ++ ws)))
include s hw

/-- Only the joint judgement set need be assumed word-only: each fragment's then is. -/
theorem Frag.wordOnly : WordOnly (infOf us) (nvarsOf us) := by
  intro a ha e he
  rcases hw _ (s.lt ha) _ (s.mem he) with ⟨id, hid, _⟩ | h | h
  · obtain ⟨b, rfl, _⟩ := mapTE_eq_equal hid
    exact .inl ⟨b, rfl, equal_lt us he⟩
  · exact .inr (mapTE_wa (.inl h))
  · exact .inr (mapTE_wa (.inr h))

/-- The evidence of a fragment's class in the joint input is its evidence in the fragment's own
input: words and `any` mention no variable, so the renaming leaves them alone. -/
theorem Frag.classEvIn {a : Nat} (ha : a < nvarsOf us) (e : TE) :
    ClassEvIn (infOf (vs ++ ws)) (nvarsOf (vs ++ ws)) (ρ a) e ↔
      ClassEvIn (infOf us) (nvarsOf us) a e := by
  have hfix : ∀ {e}, ClassEvIn (infOf us) (nvarsOf us) a e → mapTE ρ e = e :=
    fun he => mapTE_wac (WA.wac (classEvIn_wa (s.wordOnly hw) he))
  rw [s.ev ha]
  constructor
  · rintro ⟨e', he', rfl⟩; rw [hfix he']; exact he'
  · intro he; exact ⟨e, he, (hfix he).symm⟩

variable {o oU : Orders} (ho : OrdersOk o) (hoU : OrdersOk oU) {fuel fuelU : Nat}
  {f fu : Forest} {n r nU rU : Nat}
  (h : unify o fuel (nvarsOf (vs ++ ws)) (infOf (vs ++ ws)) = .ok (f, n, r))
  (hU : unify oU fuelU (nvarsOf us) (infOf us) = .ok (fu, nU, rU))
include ho hoU h hU

/-- Both classes resolve to `foldMerge` of duplicate-free enumerations of the same evidence set
(or both hold nothing). -/
theorem Frag.U1_general {a : Nat} (ha : a < nvarsOf us) :
    ((∀ e, ¬ ClassEvIn (infOf us) (nvarsOf us) a e) ∧ evidence f (ρ a) = [] ∧
      evidence fu a = []) ∨
    (∃ l l' j j', (∀ e, e ∈ l' ↔ ClassEvIn (infOf us) (nvarsOf us) a e) ∧ l.Perm l' ∧ l.Nodup ∧
      foldMerge l = some (j, []) ∧ foldMerge l' = some (j', []) ∧
      evidence f (ρ a) = [j] ∧ evidence fu a = [j']) := by
  have hce := s.classEvIn hw ha
  rcases ev_general ho hoU hw (s.wordOnly hw) h hU (ρ a) a hce with
    ⟨h1, h2, h3⟩ | ⟨l, l', j, j', hl, hp, hnd, h1, h2, h3, h4⟩
  · exact .inl ⟨fun e he => h1 e ((hce e).mpr he), h2, h3⟩
  · exact .inr ⟨l, l', j, j', fun e => (hp.mem_iff.symm.trans (hl e)).trans (hce e), hp, hnd,
      h1, h2, h3, h4⟩

/-- The joint run leaves at the class of `ρ a` exactly the evidence the fragment alone leaves at
the class of `a` — whatever the iteration orders and budgets of the two runs, and whether or not
the evidence of the class is contradictory (`ev_eq`). -/
theorem Frag.evidence_eq {a : Nat} (ha : a < nvarsOf us) : evidence f (ρ a) = evidence fu a :=
  ev_eq ho hoU hw (s.wordOnly hw) h hU (ρ a) a (s.classEvIn hw ha)

end

/-! ## The resolved evidence corresponds -/

theorem U1_general {o oA : Orders} (ho : OrdersOk o) (hoA : OrdersOk oA) (vs ws : List SV)
    (hd : Disjoint vs ws) (hw : WordOnly (infOf (vs ++ ws)) (nvarsOf (vs ++ ws)))
    {fuel fuelA : Nat} {f fA : Forest} {n r nA rA' : Nat}
    (h : unify o fuel (nvarsOf (vs ++ ws)) (infOf (vs ++ ws)) = .ok (f, n, r))
    (hA : unify oA fuelA (nvarsOf vs) (infOf vs) = .ok (fA, nA, rA'))
    {a : Nat} (ha : a < nvarsOf vs) :
    ((∀ e, ¬ ClassEvIn (infOf vs) (nvarsOf vs) a e) ∧ evidence f (rA vs ws a) = [] ∧ evidence fA a = []) ∨
    (∃ l l' j j', (∀ e, e ∈ l' ↔ ClassEvIn (infOf vs) (nvarsOf vs) a e) ∧ l.Perm l' ∧ l.Nodup ∧
      foldMerge l = some (j, []) ∧ foldMerge l' = some (j', []) ∧
      evidence f (rA vs ws a) = [j] ∧ evidence fA a = [j']) :=
  (frag_left vs ws hd).U1_general hw ho hoA h hA ha

theorem U1_general_right {o oB : Orders} (ho : OrdersOk o) (hoB : OrdersOk oB) (vs ws : List SV)
    (hd : Disjoint vs ws) (hw : WordOnly (infOf (vs ++ ws)) (nvarsOf (vs ++ ws)))
    {fuel fuelB : Nat} {f fB : Forest} {n r nB rB' : Nat}
    (h : unify o fuel (nvarsOf (vs ++ ws)) (infOf (vs ++ ws)) = .ok (f, n, r))
    (hB : unify oB fuelB (nvarsOf ws) (infOf ws) = .ok (fB, nB, rB'))
    {b : Nat} (hb : b < nvarsOf ws) :
    ((∀ e, ¬ ClassEvIn (infOf ws) (nvarsOf ws) b e) ∧ evidence f (rB vs ws b) = [] ∧ evidence fB b = []) ∨
    (∃ l l' j j', (∀ e, e ∈ l' ↔ ClassEvIn (infOf ws) (nvarsOf ws) b e) ∧ l.Perm l' ∧ l.Nodup ∧
      foldMerge l = some (j, []) ∧ foldMerge l' = some (j', []) ∧
      evidence f (rB vs ws b) = [j] ∧ evidence fB b = [j']) :=
  (frag_right vs ws hd).U1_general hw ho hoB h hB hb

/-- The hypothesis `OrderFree` (the evidence of the class of `a` in `A` alone is compatible, or
contains a contradictory pair) is not used: `Frag.evidence_eq` holds without it. -/
theorem U1_left_orderFree {o oA : Orders} (ho : OrdersOk o) (hoA : OrdersOk oA) (vs ws : List SV)
    (hd : Disjoint vs ws) (hw : WordOnly (infOf (vs ++ ws)) (nvarsOf (vs ++ ws)))
    {fuel fuelA : Nat} {f fA : Forest} {n r nA rA' : Nat}
    (h : unify o fuel (nvarsOf (vs ++ ws)) (infOf (vs ++ ws)) = .ok (f, n, r))
    (hA : unify oA fuelA (nvarsOf vs) (infOf vs) = .ok (fA, nA, rA'))
    {a : Nat} (ha : a < nvarsOf vs) (hof : OrderFree (infOf vs) (nvarsOf vs) a) :
    evidence f (rA vs ws a) = evidence fA a :=
  (frag_left vs ws hd).evidence_eq hw ho hoA h hA ha

theorem U1_right_orderFree {o oB : Orders} (ho : OrdersOk o) (hoB : OrdersOk oB) (vs ws : List SV)
    (hd : Disjoint vs ws) (hw : WordOnly (infOf (vs ++ ws)) (nvarsOf (vs ++ ws)))
    {fuel fuelB : Nat} {f fB : Forest} {n r nB rB' : Nat}
    (h : unify o fuel (nvarsOf (vs ++ ws)) (infOf (vs ++ ws)) = .ok (f, n, r))
    (hB : unify oB fuelB (nvarsOf ws) (infOf ws) = .ok (fB, nB, rB'))
    {b : Nat} (hb : b < nvarsOf ws) (hof : OrderFree (infOf ws) (nvarsOf ws) b) :
    evidence f (rB vs ws b) = evidence fB b :=
  (frag_right vs ws hd).evidence_eq hw ho hoB h hB hb

/-! ## `type_of` and rendering on the result of a word-only run -/

/-- `type_of` as a function of the evidence list of the class -/
def typeOfEv : List TE → Except RErr TE
  | [] => .ok .any
  | [e] => .ok e
  | _ => .error .unificationIncomplete

theorem typeOfIn_eq {f : Forest} (hi : DS.Inv f) (v : Nat)
    (hp : (f.data.get (DS.rootOf f v)).isSome) : typeOfIn f v = typeOfEv (evidence f v) := by
  obtain ⟨s', e, _⟩ := DS.getData_spec f v hi
  unfold typeOfIn evidence DS.dataAt
  rw [e]
  cases hd : f.data.get (DS.rootOf f v) with
  | none => rw [hd] at hp; cases hp
  | some d =>
    simp only [Option.getD_some]
    match d with
    | [] => rfl
    | [x] => rfl
    | _ :: _ :: _ => rfl

theorem typeOfIn_word {o : Orders} (ho : OrdersOk o) {nvars : Nat} {infs : Nat → List TE}
    (hw : WordOnly infs nvars) {fuel : Nat} {f : Forest} {n r : Nat}
    (h : unify o fuel nvars infs = .ok (f, n, r)) {v : Nat} (hv : v < nvars) :
    typeOfIn f v = typeOfEv (evidence f v) ∧ ∀ te, typeOfIn f v = .ok te → WAC te := by
  have e := typeOfIn_eq (unify_post ho h).1.1 v ((wordResult ho hw h).present v hv)
  refine ⟨e, fun te hte => ?_⟩
  rw [e] at hte
  rcases (wordResult ho hw h).fold v with ⟨_, h2⟩ | ⟨l, j, hl, _, hfm, hd⟩
  · rw [h2] at hte; injection hte with hte; subst hte; exact .inr (.inl rfl)
  · rw [hd] at hte; injection hte with hte; subst hte
    exact (foldMerge_wac (fun x hx => WA.wac (classEvIn_wa hw ((hl x).mp hx))) hfm).2

/-- Rendering a variable whose type is a word, `any`, `conflict` or an error reads nothing else. -/
theorem abiTypeFor_wac (typeOf typeOf' : Nat → Except RErr TE) (n v v' : Nat) (seen : List TE) (pp : Bool)
    (h : typeOf v = typeOf' v') (hw : ∀ te, typeOf v = .ok te → WAC te) :
    abiTypeFor typeOf (n + 1) v seen pp = abiTypeFor typeOf' (n + 1) v' seen pp := by
  unfold abiTypeFor
  rw [← h]
  cases ht : typeOf v with
  | error e => rfl
  | ok te =>
    rcases hw te ht with ⟨w, u, rfl⟩ | rfl | rfl <;> rfl

/-- the layout loop only depends on how the constant slots' variables render -/
theorem layoutEntries_congr (typeOf typeOf' : Nat → Except RErr TE) (fuel : Nat) (g : TV → TV) :
    ∀ (l : List TV), (∀ t ∈ l, isConstSlot (g t) = isConstSlot t) →
      (∀ t ∈ l, isConstSlot t ≠ none →
        abiTypeFor typeOf fuel (g t).tv [] false = abiTypeFor typeOf' fuel t.tv [] false) →
      layoutEntries typeOf fuel (l.map g) = layoutEntries typeOf' fuel l := by
  intro l
  induction l with
  | nil => intro _ _; rfl
  | cons t ts ih =>
    intro h1 h2
    have ih' := ih (fun x hx => h1 x (List.mem_cons_of_mem _ hx))
      (fun x hx => h2 x (List.mem_cons_of_mem _ hx))
    simp only [List.map_cons, layoutEntries, h1 t List.mem_cons_self]
    cases hc : isConstSlot t with
    | none => exact ih'
    | some w =>
      simp only []
      rw [h2 t List.mem_cons_self (by rw [hc]; simp), ih']

theorem layoutEntries_word {o : Orders} (ho : OrdersOk o) {nvars : Nat} {infs : Nat → List TE}
    (hw : WordOnly infs nvars) {fuel : Nat} {f : Forest} {n r : Nat}
    (h : unify o fuel nvars infs = .ok (f, n, r)) (typeOf' : Nat → Except RErr TE) (g : TV → TV)
    (l : List TV) (hg : ∀ t ∈ l, isConstSlot (g t) = isConstSlot t)
    (hty : ∀ t ∈ l, (g t).tv < nvars ∧ typeOfIn f (g t).tv = typeOf' t.tv) :
    layoutEntries (typeOfIn f) 4096 (l.map g) = layoutEntries typeOf' 4096 l :=
  layoutEntries_congr _ _ 4096 g l hg (fun t ht _ =>
    abiTypeFor_wac _ _ 4095 _ _ _ _ (hty t ht).2 (typeOfIn_word ho hw h (hty t ht).1).2)

theorem registered_lt {us : List SV} {t : TV} (ht : t ∈ (registerAll us).values) :
    t.tv < (registerAll us).next ∧ t.tv < nvarsOf us :=
  have hlt := allLt_tv ((registerAll_rinv us).valsLt t ht)
  ⟨hlt, Nat.lt_of_lt_of_le hlt (inferAll_good us).1⟩

section
variable {vs ws us : List SV} {ρ : Nat → Nat} (s : Frag vs ws us ρ)
  (hw : WordOnly (infOf (vs ++ ws)) (nvarsOf (vs ++ ws)))
  {o oU : Orders} (ho : OrdersOk o) (hoU : OrdersOk oU) {fuel fuelU : Nat}
  {f fu : Forest} {n r nU rU : Nat}
  (h : unify o fuel (nvarsOf (vs ++ ws)) (infOf (vs ++ ws)) = .ok (f, n, r))
  (hU : unify oU fuelU (nvarsOf us) (infOf us) = .ok (fu, nU, rU))
include s hw ho hoU h hU

theorem Frag.typeOfIn_eq {a : Nat} (ha : a < nvarsOf us) : typeOfIn f (ρ a) = typeOfIn fu a := by
  rw [(typeOfIn_word ho hw h (s.lt ha)).1, (typeOfIn_word hoU (s.wordOnly hw) hU ha).1,
    s.evidence_eq hw ho hoU h hU ha]

/-- The layout loop on the fragment's registered values, as they appear (`g`) in the joint run. -/
theorem Frag.layoutEntries (g : TV → TV)
    (hg : ∀ t ∈ (registerAll us).values, isConstSlot (g t) = isConstSlot t ∧ (g t).tv = ρ t.tv) :
    layoutEntries (typeOfIn f) 4096 ((registerAll us).values.map g)
      = layoutEntries (typeOfIn fu) 4096 (registerAll us).values :=
  layoutEntries_word ho hw h _ g _ (fun t ht => (hg t ht).1) (fun t ht => by
    rw [(hg t ht).2]
    exact ⟨s.lt (registered_lt ht).2, s.typeOfIn_eq hw ho hoU h hU (registered_lt ht).2⟩)

end

theorem rA_fixed (vs ws : List SV) {x : Nat} (hx : x < (registerAll vs).next) : rA vs ws x = x := by
  simp [rA, rhoA, shiftVar, hx]

theorem rB_shift (vs ws : List SV) {x : Nat} (hx : x < (registerAll ws).next) :
    rB vs ws x = x + (registerAll vs).next := by
  simp [rB, rhoB, shiftVar, hx]

/-! ## The layout of the joint program -/

theorem outcome_layout_iff (o : Orders) (fuel : Nat) (us : List SV) (l : List (Layout.Entry JsonModel.AbiType)) :
    (analyseLifted o fuel us).outcome = .layout l ↔
      ∃ f n r es, unify o fuel (nvarsOf us) (infOf us) = .ok (f, n, r) ∧
        layoutEntries (typeOfIn f) 4096 (registerAll us).values = .ok es ∧ l = Layout.buildLayout es := by
  rw [Rename.analyseLifted_outcome]
  exact tailOutcome_layout_iff

/-- `esA`, `esB` are the entry lists the separate layout loops hand to `buildLayout`; under every
admissible order the joint layout loop produces literally `esA ++ esB`. -/
theorem U2_joint {oA oB : Orders} (hoA : OrdersOk oA) (hoB : OrdersOk oB)
    (vs ws : List SV) (hd : Disjoint vs ws)
    (hw : WordOnly (infOf (vs ++ ws)) (nvarsOf (vs ++ ws)))
    {fuelA fuelB : Nat} {lA lB : List (Layout.Entry JsonModel.AbiType)}
    (hA : (analyseLifted oA fuelA vs).outcome = .layout lA)
    (hB : (analyseLifted oB fuelB ws).outcome = .layout lB) :
    ∃ esA esB, lA = Layout.buildLayout esA ∧ lB = Layout.buildLayout esB ∧
      ∀ {o : Orders}, OrdersOk o → ∀ fuel,
        (∀ l, (analyseLifted o fuel (vs ++ ws)).outcome = .layout l →
          l = Layout.buildLayout (esA ++ esB)) ∧
        (2 ≤ fuel →
          (analyseLifted o fuel (vs ++ ws)).outcome = .layout (Layout.buildLayout (esA ++ esB))) := by
  obtain ⟨fA, nA, rA', esA, huA, hlA, rfl⟩ := (outcome_layout_iff oA fuelA _ lA).mp hA
  obtain ⟨fB, nB, rB', esB, huB, hlB, rfl⟩ := (outcome_layout_iff oB fuelB _ lB).mp hB
  refine ⟨esA, esB, rfl, rfl, fun {o} ho fuel => ?_⟩
  have key : ∀ {f n r}, unify o fuel (nvarsOf (vs ++ ws)) (infOf (vs ++ ws)) = .ok (f, n, r) →
      layoutEntries (typeOfIn f) 4096 (registerAll (vs ++ ws)).values = .ok (esA ++ esB) := by
    intro f n r hu
    have eA := (frag_left vs ws hd).layoutEntries hw ho hoA hu huA id
      (fun t ht => ⟨rfl, (rA_fixed vs ws (registered_lt ht).1).symm⟩)
    have eB := (frag_right vs ws hd).layoutEntries hw ho hoB hu huB
      (TV.shift (registerAll vs).next) (fun t ht => ⟨isConstSlot_mapVar _ t, by
        rw [rB_shift vs ws (registered_lt ht).1]; exact tv_mapVar _ t⟩)
    rw [List.map_id] at eA
    rw [layoutEntries_joint _ _ vs ws hd, eA, eB, hlA, hlB]
  constructor
  · intro l h
    obtain ⟨f, n, r, es, hu, hl, rfl⟩ := (outcome_layout_iff o fuel _ l).mp h
    rw [key hu] at hl
    injection hl with hl
    rw [hl]
  · intro hfuel
    obtain ⟨f, r, hu, _⟩ := unify_word_runs ho hw fuel hfuel
    exact (outcome_layout_iff o fuel _ _).mpr ⟨f, _, r, _, hu, key hu, rfl⟩

/-- `buildLayout` (a stable sort by slot and offset) of a concatenation can be taken piecewise. -/
theorem buildLayout_append {α : Type} (es₁ es₂ : List (Layout.Entry α)) :
    Layout.buildLayout (es₁ ++ es₂) = Layout.buildLayout (Layout.buildLayout es₁ ++ Layout.buildLayout es₂) := by
  rw [Layout.buildLayout_eq_iff]
  intro k
  rw [List.filter_append, List.filter_append, Layout.buildLayout_stable, Layout.buildLayout_stable]

/-- Every layout the joint program returns is the layout built from the two
separate layouts — the entries of `lA` and `lB`, sorted by slot and offset, `lA`'s entries first
among equal keys — and it returns it for every budget of at least two rounds. -/
theorem U2_closed {o oA oB : Orders} (ho : OrdersOk o) (hoA : OrdersOk oA) (hoB : OrdersOk oB)
    (vs ws : List SV) (hd : Disjoint vs ws)
    (hw : WordOnly (infOf (vs ++ ws)) (nvarsOf (vs ++ ws)))
    {fuelA fuelB : Nat} {lA lB : List (Layout.Entry JsonModel.AbiType)}
    (hA : (analyseLifted oA fuelA vs).outcome = .layout lA)
    (hB : (analyseLifted oB fuelB ws).outcome = .layout lB) (fuel : Nat) :
    (∀ l, (analyseLifted o fuel (vs ++ ws)).outcome = .layout l →
      l = Layout.buildLayout (lA ++ lB) ∧ l.Perm (lA ++ lB)) ∧
    (2 ≤ fuel →
      (analyseLifted o fuel (vs ++ ws)).outcome = .layout (Layout.buildLayout (lA ++ lB))) := by
  obtain ⟨esA, esB, rfl, rfl, hj⟩ := U2_joint hoA hoB vs ws hd hw hA hB
  rw [← buildLayout_append]
  refine ⟨fun l h => ?_, (hj ho fuel).2⟩
  rw [(hj ho fuel).1 l h]
  exact ⟨rfl, (Layout.buildLayout_perm _).trans
    ((Layout.buildLayout_perm esA).symm.append (Layout.buildLayout_perm esB).symm)⟩

/-- With `OrderFree` assumed for every variable of both fragments; the hypotheses are not used
(`U2_joint`). -/
theorem U2 {o oA oB : Orders} (ho : OrdersOk o) (hoA : OrdersOk oA) (hoB : OrdersOk oB)
    (vs ws : List SV) (hd : Disjoint vs ws)
    (hw : WordOnly (infOf (vs ++ ws)) (nvarsOf (vs ++ ws)))
    (hofA : ∀ a, a < nvarsOf vs → OrderFree (infOf vs) (nvarsOf vs) a)
    (hofB : ∀ b, b < nvarsOf ws → OrderFree (infOf ws) (nvarsOf ws) b)
    {fuel fuelA fuelB : Nat} {l lA lB : List (Layout.Entry JsonModel.AbiType)}
    (h : (analyseLifted o fuel (vs ++ ws)).outcome = .layout l)
    (hA : (analyseLifted oA fuelA vs).outcome = .layout lA)
    (hB : (analyseLifted oB fuelB ws).outcome = .layout lB) :
    l.Perm (lA ++ lB) ∧
      ∃ esA esB, lA = Layout.buildLayout esA ∧ lB = Layout.buildLayout esB ∧
        l = Layout.buildLayout (esA ++ esB) := by
  obtain ⟨esA, esB, eA, eB, hj⟩ := U2_joint hoA hoB vs ws hd hw hA hB
  exact ⟨((U2_closed ho hoA hoB vs ws hd hw hA hB fuel).1 l h).2,
    esA, esB, eA, eB, (hj ho fuel).1 l h⟩

/-! ## Checkers for the hypotheses, and non-vacuity -/

/-- executable `WordOnly` -/
def wordOnlyB (infs : Nat → List TE) (nvars : Nat) : Bool :=
  (List.range nvars).all fun v => (infs v).all fun e =>
    match e with
    | .equal id => decide (id < nvars)
    | .word _ _ => true
    | .any => true
    | _ => false

theorem wordOnly_of_B {infs : Nat → List TE} {nvars : Nat} (h : wordOnlyB infs nvars = true) :
    WordOnly infs nvars := by
  intro v hv e he
  simp only [wordOnlyB, List.all_eq_true, List.mem_range] at h
  have := h v hv e he
  cases e <;> simp at this ⊢
  exact this

/-- the forest a run returns (`{}` if it faults) -/
def finalForest (o : Orders) (fuel nvars : Nat) (infs : Nat → List TE) : Forest :=
  match unify o fuel nvars infs with
  | .ok (f, _, _) => f
  | .error _ => {}

def classEvList (infs : Nat → List TE) (nvars : Nat) (f : Forest) (v : Nat) : List TE :=
  (List.range nvars).flatMap fun a =>
    if DS.rootOf f a = DS.rootOf f v then (infs a).filter NoEq else []

theorem mem_classEvList {infs : Nat → List TE} {nvars : Nat} {f : Forest} {v : Nat} {e : TE} :
    e ∈ classEvList infs nvars f v ↔ ClassEv infs nvars f v e := by
  simp only [classEvList, List.mem_flatMap, List.mem_range, ClassEv, sameClass]
  constructor
  · rintro ⟨a, ha, he⟩
    split at he
    · rename_i hr
      rw [List.mem_filter] at he
      exact ⟨a, hr, ha, he.1, he.2⟩
    · cases he
  · rintro ⟨a, hr, ha, he, hn⟩
    refine ⟨a, ha, ?_⟩
    rw [if_pos hr, List.mem_filter]
    exact ⟨he, hn⟩

/-- executable `OrderFree`, read off a final forest: the resolved type bounds all the evidence of
the class (or there is none), or the evidence contains a contradictory pair -/
def orderFreeB (infs : Nat → List TE) (nvars : Nat) (f : Forest) (v : Nat) : Bool :=
  let L := classEvList infs nvars f v
  (match evidence f v with
   | [j] => L.all (fun e => wordLe e j)
   | _ => L.isEmpty) || L.any (fun a => L.any (fun b => conflicts a b))

theorem orderFree_of_B {o : Orders} (ho : OrdersOk o) {nvars : Nat} {infs : Nat → List TE}
    (hw : WordOnly infs nvars) {fuel : Nat} (hfuel : 2 ≤ fuel) {v : Nat}
    (hb : orderFreeB infs nvars (finalForest o fuel nvars infs) v = true) : OrderFree infs nvars v := by
  obtain ⟨f, r, hu, _⟩ := unify_word_runs ho hw fuel hfuel
  have hf : finalForest o fuel nvars infs = f := by simp only [finalForest, hu]
  rw [hf] at hb
  have c := (wordResult ho hw hu).classEv v
  simp only [orderFreeB, Bool.or_eq_true, List.any_eq_true] at hb
  rcases hb with hb | ⟨a, ha, b, hb, hc⟩
  · left
    split at hb
    · rename_i j _
      refine ⟨j, fun e he => ?_⟩
      rw [List.all_eq_true] at hb
      exact hb e (mem_classEvList.mpr ((c e).mpr he))
    · refine ⟨.any, fun e he => ?_⟩
      have := mem_classEvList.mpr ((c e).mpr he)
      rw [List.isEmpty_iff.mp hb] at this
      cases this
  · right
    exact ⟨a, b, (c a).mp (mem_classEvList.mp ha), (c b).mp (mem_classEvList.mp hb), hc⟩

/-! ### two concrete fragments -/

/-- fragment `A`: `sstore(1, callvalue)` after lifting -/
def exA : SV := rebuild .storageWrite [] [Idioms.sSlot (Idioms.K 1), IdiomsE2E.valueV]
/-- fragment `B`: `sstore(2, caller)` after lifting -/
def exB : SV := rebuild .storageWrite [] [Idioms.sSlot (Idioms.K 2), Idioms.callerV]

/-- these are the lifted forms of the two writes (for every hash context that does not know the
slot numbers as hashes) -/
example (h : Lift.HashCtx) (h1 : h.table 1 = none) (h2 : h.table 2 = none) :
    Lift.liftAll h (rebuild .storageWrite [] [Idioms.K 1, IdiomsE2E.valueV]) = .ok exA ∧
    Lift.liftAll h (rebuild .storageWrite [] [Idioms.K 2, Idioms.callerV]) = .ok exB :=
  ⟨IdiomsE2E.lift_write_K h 1 h1 _ IdiomsE2E.Inert_valueV,
   IdiomsE2E.lift_write_K h 2 h2 _ IdiomsE2E.Inert_callerV⟩

theorem ex_disjoint : Disjoint [exA] [exB] := disjoint_of_disjointB (by decide)

theorem ex_wordOnly : WordOnly (infOf ([exA] ++ [exB])) (nvarsOf ([exA] ++ [exB])) :=
  wordOnly_of_B (by decide)

theorem ex_orderFreeA : ∀ a, a < nvarsOf [exA] → OrderFree (infOf [exA]) (nvarsOf [exA]) a := by
  have hw := (frag_left [exA] [exB] ex_disjoint).wordOnly ex_wordOnly
  have : ∀ a, a < nvarsOf [exA] → orderFreeB (infOf [exA]) (nvarsOf [exA])
      (finalForest idOrders 2 (nvarsOf [exA]) (infOf [exA])) a = true := by decide
  exact fun a ha => orderFree_of_B idOrders_ok hw (Nat.le_refl 2) (this a ha)

theorem ex_orderFreeB : ∀ b, b < nvarsOf [exB] → OrderFree (infOf [exB]) (nvarsOf [exB]) b := by
  have hw := (frag_right [exA] [exB] ex_disjoint).wordOnly ex_wordOnly
  have : ∀ a, a < nvarsOf [exB] → orderFreeB (infOf [exB]) (nvarsOf [exB])
      (finalForest idOrders 2 (nvarsOf [exB]) (infOf [exB])) a = true := by decide
  exact fun a ha => orderFree_of_B idOrders_ok hw (Nat.le_refl 2) (this a ha)

theorem ex_layoutA : (analyseLifted idOrders 2 [exA]).outcome = .layout [⟨1, 0, .uInt none⟩] := rfl
theorem ex_layoutB : (analyseLifted idOrders 2 [exB]).outcome = .layout [⟨2, 0, .address⟩] := rfl

/-- All hypotheses of `U2` hold on the two writes `sstore(1, callvalue)` and
`sstore(2, caller)` (lifted); the joint program's layout is — by `U2_closed`, not by evaluation — the
union `slot 1 : uint, slot 2 : address`, under every admissible iteration order and every budget
for which it returns one, and it does return one for every budget ≥ 2. -/
theorem U3 :
    Disjoint [exA] [exB] ∧
    WordOnly (infOf ([exA] ++ [exB])) (nvarsOf ([exA] ++ [exB])) ∧
    (∀ a, a < nvarsOf [exA] → OrderFree (infOf [exA]) (nvarsOf [exA]) a) ∧
    (∀ b, b < nvarsOf [exB] → OrderFree (infOf [exB]) (nvarsOf [exB]) b) ∧
    (∀ (o : Orders), OrdersOk o → ∀ fuel l, (analyseLifted o fuel ([exA] ++ [exB])).outcome = .layout l →
      l = [⟨1, 0, .uInt none⟩, ⟨2, 0, .address⟩]) ∧
    (∀ (o : Orders), OrdersOk o → ∀ fuel, 2 ≤ fuel →
      (analyseLifted o fuel ([exA] ++ [exB])).outcome = .layout [⟨1, 0, .uInt none⟩, ⟨2, 0, .address⟩]) := by
  have key := fun (o : Orders) (ho : OrdersOk o) fuel =>
    U2_closed ho idOrders_ok idOrders_ok [exA] [exB] ex_disjoint ex_wordOnly ex_layoutA ex_layoutB fuel
  exact ⟨ex_disjoint, ex_wordOnly, ex_orderFreeA, ex_orderFreeB,
    fun o ho fuel l h => ((key o ho fuel).1 l h).1, fun o ho fuel => (key o ho fuel).2⟩

/-- the evaluation agrees -/
example : (analyseLifted idOrders 2 ([exA] ++ [exB])).outcome
    = .layout [⟨1, 0, .uInt none⟩, ⟨2, 0, .address⟩] := rfl

/-- `U1_general` on the example: the class of `A`'s slot variable (`1`, equated with the stored value `2`)
resolves to `uint` in both runs; `B`'s slot variable (`1`, in the joint run `rB … 1 = 5`) to
`address`. -/
example : ∃ f fA fB n r nA r1 nB r2,
    unify idOrders 2 (nvarsOf ([exA] ++ [exB])) (infOf ([exA] ++ [exB])) = .ok (f, n, r) ∧
    unify idOrders 2 (nvarsOf [exA]) (infOf [exA]) = .ok (fA, nA, r1) ∧
    unify idOrders 2 (nvarsOf [exB]) (infOf [exB]) = .ok (fB, nB, r2) ∧
    rA [exA] [exB] 1 = 1 ∧ rB [exA] [exB] 1 = 5 ∧
    evidence f 1 = [.word none .unsignedNumeric] ∧ evidence fA 1 = [.word none .unsignedNumeric] ∧
    evidence f 5 = [.word (some 160) .address] ∧ evidence fB 1 = [.word (some 160) .address] :=
  ⟨_, _, _, _, _, _, _, _, _, rfl, rfl, rfl, rfl, rfl, rfl, rfl, rfl, rfl⟩

/-! ### a fragment with contradictory evidence: `sstore(1, iszero(callvalue)); sstore(1, caller)`

Slot 1 receives a `bool` and an `address`: its class is a conflict in `A` alone and — by `U2_closed`,
with no compatibility assumption — in every joint run. -/

def exC1 : SV := rebuild .storageWrite [] [Idioms.sSlot (Idioms.K 1), rebuild .isZero [] [IdiomsE2E.valueV]]
def exC2 : SV := rebuild .storageWrite [] [Idioms.sSlot (Idioms.K 1), Idioms.callerV]

theorem exC_disjoint : Disjoint [exC1, exC2] [exB] := disjoint_of_disjointB (by decide)

theorem exC_wordOnly : WordOnly (infOf ([exC1, exC2] ++ [exB])) (nvarsOf ([exC1, exC2] ++ [exB])) :=
  wordOnly_of_B (by decide)

theorem exC_layoutA :
    (analyseLifted idOrders 2 [exC1, exC2]).outcome = .layout [⟨1, 0, .conflictedType [] []⟩] := rfl

theorem exC_union (o : Orders) (ho : OrdersOk o) (fuel : Nat) (hfuel : 2 ≤ fuel) :
    (analyseLifted o fuel ([exC1, exC2] ++ [exB])).outcome
      = .layout [⟨1, 0, .conflictedType [] []⟩, ⟨2, 0, .address⟩] :=
  (U2_closed ho idOrders_ok idOrders_ok _ _ exC_disjoint exC_wordOnly exC_layoutA ex_layoutB fuel).2
    hfuel

end SLE.FragUnion
