import SLE.Lemmas.VMap
/-!
The union-find forest `DS` refines a naive partition: invariant, pure root function,
per-operation step lemmas, and whole-history theorems.  Core Lean only.
-/
namespace SLE.Containers
open VMap

/-! ### Parent maps: acyclicity, the root relation, the fuel measure -/

/-- `rank` witnesses acyclicity of the parent map `r`: it strictly increases along every
proper parent link, and parents are present. -/
def Acyc (r : VMap Nat) (rank : Nat → Nat) : Prop :=
  ∀ i p, r.get i = some p → p ≠ i → rank i < rank p ∧ (r.get p).isSome

/-- `RootRel r v t`: following parent links from `v` in `r` ends at `t`
(an absent `v` is its own root). -/
inductive RootRel (r : VMap Nat) : Nat → Nat → Prop
  | absent {v : Nat} : r.get v = none → RootRel r v v
  | root {v : Nat} : r.get v = some v → RootRel r v v
  | step {v p t : Nat} : r.get v = some p → p ≠ v → RootRel r p t → RootRel r v t

theorem RootRel.det {r : VMap Nat} {v t t' : Nat} (h : RootRel r v t) (h' : RootRel r v t') :
    t = t' := by
  induction h generalizing t' with
  | absent h0 =>
    cases h' with
    | absent _ => rfl
    | root _ => rfl
    | step h1 _ _ => rw [h0] at h1; cases h1
  | root h0 =>
    cases h' with
    | absent _ => rfl
    | root _ => rfl
    | step h1 hne _ => rw [h0] at h1; injection h1 with h1; exact absurd h1.symm hne
  | step h0 hne _ ih =>
    cases h' with
    | absent h1 => rw [h0] at h1; cases h1
    | root h1 => rw [h0] at h1; injection h1 with h1; exact absurd h1 hne
    | step h1 _ h2 => rw [h0] at h1; injection h1 with h1; subst h1; exact ih h2

/-- The end of a path is a fixed point of the parent map, or the (absent) start itself. -/
theorem RootRel.end_root {r : VMap Nat} {rank : Nat → Nat} (hc : Acyc r rank) {v t : Nat}
    (h : RootRel r v t) : r.get t = some t ∨ (r.get v = none ∧ t = v) := by
  induction h with
  | absent h0 => exact .inr ⟨h0, rfl⟩
  | root h0 => exact .inl h0
  | step h0 hne h1 ih =>
    rcases ih with ih | ⟨ih, _⟩
    · exact .inl ih
    · have := (hc _ _ h0 hne).2
      rw [ih] at this; cases this

theorem RootRel.end_root_of_present {r : VMap Nat} {rank : Nat → Nat} (hc : Acyc r rank)
    {v t : Nat} (h : RootRel r v t) (hv : (r.get v).isSome) : r.get t = some t := by
  rcases h.end_root hc with h1 | ⟨h1, _⟩
  · exact h1
  · rw [h1] at hv; cases hv

theorem RootRel.end_self {r : VMap Nat} {rank : Nat → Nat} (hc : Acyc r rank) {v t : Nat}
    (h : RootRel r v t) : RootRel r t t := by
  rcases h.end_root hc with h1 | ⟨h1, h2⟩
  · exact .root h1
  · subst h2; exact .absent h1

theorem RootRel.rank_lt {r : VMap Nat} {rank : Nat → Nat} (hc : Acyc r rank) {v t : Nat}
    (h : RootRel r v t) (hne : t ≠ v) : rank v < rank t := by
  induction h with
  | absent _ => exact absurd rfl hne
  | root _ => exact absurd rfl hne
  | @step v p t h0 hpv _ ih =>
    have h1 := (hc _ _ h0 hpv).1
    by_cases hp : t = p
    · subst hp; exact h1
    · exact Nat.lt_trans h1 (ih hp)

/-! #### the fuel measure: present cells of rank at least `rank v` -/

def mu (r : VMap Nat) (rank : Nat → Nat) (v : Nat) : Nat :=
  (List.range r.data.length).countP (fun j => (r.get j).isSome && decide (rank v ≤ rank j))

theorem countP_lt_of {α : Type} (P Q : α → Bool) (l : List α)
    (hmono : ∀ x ∈ l, P x = true → Q x = true) (x : α) (hx : x ∈ l) (hq : Q x = true)
    (hp : ¬ P x = true) : l.countP P < l.countP Q := by
  induction l with
  | nil => cases hx
  | cons a l ih =>
    rw [List.countP_cons, List.countP_cons]
    have hm' : ∀ y ∈ l, P y = true → Q y = true := fun y hy => hmono y (List.mem_cons_of_mem _ hy)
    rcases List.mem_cons.mp hx with rfl | hx'
    · have := List.countP_mono_left hm'
      rw [if_pos hq, if_neg hp]; omega
    · have := ih hm' hx'
      have h2 := hmono a (List.mem_cons_self ..)
      by_cases hpa : P a = true
      · rw [if_pos hpa, if_pos (h2 hpa)]; omega
      · rw [if_neg hpa]; split <;> omega

theorem mu_le (r : VMap Nat) (rank : Nat → Nat) (v : Nat) : mu r rank v ≤ r.data.length := by
  unfold mu
  have := @List.countP_le_length _ (fun j => (r.get j).isSome && decide (rank v ≤ rank j))
    (List.range r.data.length)
  simpa using this

theorem mu_lt {r : VMap Nat} {rank : Nat → Nat} (hc : Acyc r rank) {i p : Nat}
    (h : r.get i = some p) (hne : p ≠ i) : mu r rank p < mu r rank i := by
  have hr := (hc _ _ h hne).1
  unfold mu
  apply countP_lt_of _ _ _ _ i
  · exact List.mem_range.mpr (get_some_lt (by rw [h]; rfl))
  · simp [h]
  · simp; intro _; omega
  · intro x _ hx
    simp at hx ⊢
    exact ⟨hx.1, by omega⟩

/-! #### the pure root function -/

def rootFuel : Nat → VMap Nat → Nat → Nat
  | 0, _, v => v
  | f + 1, r, v =>
    match r.get v with
    | some p => if p = v then v else rootFuel f r p
    | none => v

theorem rootFuel_rel {r : VMap Nat} {rank : Nat → Nat} (hc : Acyc r rank) :
    ∀ f v, mu r rank v < f → RootRel r v (rootFuel f r v) := by
  intro f
  induction f with
  | zero => intro v h; omega
  | succ f ih =>
    intro v h
    unfold rootFuel
    cases hv : r.get v with
    | none => exact .absent hv
    | some p =>
      simp only []
      by_cases hp : p = v
      · rw [if_pos hp]; subst hp; exact .root hv
      · rw [if_neg hp]
        have := mu_lt hc hv hp
        exact .step hv hp (ih p (by omega))

/-- The root of `v` in parent map `r` (fuel `length + 1` always suffices). -/
def rootOfMap (r : VMap Nat) (v : Nat) : Nat := rootFuel (r.data.length + 1) r v

theorem rootOfMap_rel {r : VMap Nat} {rank : Nat → Nat} (hc : Acyc r rank) (v : Nat) :
    RootRel r v (rootOfMap r v) :=
  rootFuel_rel hc _ _ (by have := mu_le r rank v; omega)

theorem rootOfMap_eq {r : VMap Nat} {rank : Nat → Nat} (hc : Acyc r rank) {v t : Nat}
    (h : RootRel r v t) : rootOfMap r v = t :=
  (rootOfMap_rel hc v).det h

/-! #### compression: cells may be redirected to their own root -/

/-- `r'` arises from `r` by redirecting some cells to their own root
(an absent cell may thereby become a self-rooted singleton). -/
def Compress (r r' : VMap Nat) : Prop :=
  ∀ w, r'.get w = r.get w ∨ ∃ t, RootRel r w t ∧ r'.get w = some t

theorem Compress.refl (r : VMap Nat) : Compress r r := fun _ => .inl rfl

theorem Compress.present {r r' : VMap Nat} (h : Compress r r') {w : Nat}
    (hw : (r.get w).isSome) : (r'.get w).isSome := by
  rcases h w with h1 | ⟨t, _, h1⟩
  · rw [h1]; exact hw
  · rw [h1]; rfl

theorem Compress.root_fixed {r r' : VMap Nat} (h : Compress r r') {t : Nat}
    (ht : r.get t = some t) : r'.get t = some t := by
  rcases h t with h1 | ⟨t', h2, h1⟩
  · rw [h1]; exact ht
  · have := h2.det (.root ht); subst this; exact h1

theorem Compress.acyc {r r' : VMap Nat} {rank : Nat → Nat} (h : Compress r r')
    (hc : Acyc r rank) : Acyc r' rank := by
  intro i p hi hne
  rcases h i with h1 | ⟨t, h2, h1⟩
  · rw [h1] at hi
    have := hc i p hi hne
    exact ⟨this.1, h.present this.2⟩
  · rw [h1] at hi; injection hi with hi; subst hi
    refine ⟨h2.rank_lt hc hne, ?_⟩
    rcases h2.end_root hc with h3 | ⟨_, h3⟩
    · rw [h.root_fixed h3]; rfl
    · exact absurd h3 hne

theorem Compress.rootRel {r r' : VMap Nat} {rank : Nat → Nat} (h : Compress r r')
    (hc : Acyc r rank) {w t : Nat} (hr : RootRel r w t) : RootRel r' w t := by
  induction hr with
  | @absent v h0 =>
    rcases h v with h1 | ⟨t', h2, h1⟩
    · exact .absent (by rw [h1]; exact h0)
    · have := h2.det (.absent h0); subst this; exact .root h1
  | @root v h0 => exact .root (h.root_fixed h0)
  | @step v p t h0 hne hp ih =>
    rcases h v with h1 | ⟨t', h2, h1⟩
    · exact .step (by rw [h1]; exact h0) hne ih
    · have := h2.det (.step h0 hne hp); subst this
      by_cases htv : t' = v
      · subst htv; exact .root h1
      · have h3 : r.get t' = some t' :=
          hp.end_root_of_present hc (hc _ _ h0 hne).2
        exact .step h1 htv (.root (h.root_fixed h3))

theorem Compress.rootOfMap {r r' : VMap Nat} {rank : Nat → Nat} (h : Compress r r')
    (hc : Acyc r rank) (w : Nat) : rootOfMap r' w = rootOfMap r w :=
  rootOfMap_eq (h.acyc hc) (h.rootRel hc (rootOfMap_rel hc w))

theorem Compress.insert_root {r r1 : VMap Nat} (h : Compress r r1) {v t : Nat}
    (hv : RootRel r v t) : Compress r (r1.insert v t) := by
  intro w
  rw [get_insert]
  by_cases hw : w = v
  · subst hw; rw [if_pos rfl]; exact .inr ⟨t, hv, rfl⟩
  · rw [if_neg hw]; exact h w

/-! #### `findFuel` -/

theorem findFuel_present {r : VMap Nat} {rank : Nat → Nat} (hc : Acyc r rank) (hwf : WF r) :
    ∀ f v, (r.get v).isSome → mu r rank v < f →
      ∃ r' t, DS.findFuel f r v = .ok (r', t) ∧ RootRel r v t ∧ Compress r r' ∧ WF r' ∧
        ∀ w, (r'.get w).isSome = (r.get w).isSome := by
  intro f
  induction f with
  | zero => intro v _ h; omega
  | succ f ih =>
    intro v hv h
    unfold DS.findFuel
    cases hg : r.get v with
    | none => rw [hg] at hv; cases hv
    | some p =>
      simp only []
      by_cases hp : p = v
      · rw [if_pos hp]; subst hp
        exact ⟨r, p, rfl, .root hg, .refl r, hwf, fun _ => rfl⟩
      · rw [if_neg hp]
        have hm := mu_lt hc hg hp
        obtain ⟨r1, t, h1, h2, h3, h4, h5⟩ := ih p (hc _ _ hg hp).2 (by omega)
        rw [h1]
        refine ⟨_, t, rfl, .step hg hp h2, h3.insert_root (.step hg hp h2),
          wf_insert _ _ _ h4, ?_⟩
        intro w
        rw [get_insert]
        by_cases hw : w = v
        · subst hw; rw [if_pos rfl, hg]; rfl
        · rw [if_neg hw]; exact h5 w

theorem findFuel_absent {r : VMap Nat} (f v : Nat) (hv : r.get v = none) :
    DS.findFuel (f + 2) r v = .ok (r.insert v v, v) := by
  rw [DS.findFuel]
  simp only [hv]
  rw [DS.findFuel]
  simp [get_insert]

theorem compress_insert_absent {r : VMap Nat} {v : Nat} (hv : r.get v = none) :
    Compress r (r.insert v v) :=
  (Compress.refl r).insert_root (.absent hv)

/-! #### linking one root under another -/

theorem link_acyc {r : VMap Nat} {rank : Nat → Nat} {ra rb : Nat} (hc : Acyc r rank)
    (ha : r.get ra = some ra) (hne : ra ≠ rb) :
    Acyc (r.insert rb ra) (fun x => if x = ra then max (rank ra) (rank rb + 1) else rank x) := by
  intro i p hi hpi
  rw [get_insert] at hi
  have hpres : ∀ q, (r.get q).isSome → ((r.insert rb ra).get q).isSome := by
    intro q hq; rw [get_insert]; split
    · rfl
    · exact hq
  by_cases hib : i = rb
  · subst hib
    rw [if_pos rfl] at hi; injection hi with hi; subst hi
    refine ⟨?_, hpres _ (by rw [ha]; rfl)⟩
    simp only [if_neg (Ne.symm hne), if_pos]
    omega
  · rw [if_neg hib] at hi
    have h1 := hc i p hi hpi
    refine ⟨?_, hpres _ h1.2⟩
    have hia : i ≠ ra := by
      intro e; subst e; rw [ha] at hi; injection hi with hi; exact hpi hi.symm
    simp only [if_neg hia]
    have h2 := h1.1
    split
    · subst p; omega
    · exact h2

theorem link_rootRel {r : VMap Nat} {ra rb : Nat} (ha : r.get ra = some ra)
    (hb : r.get rb = some rb) (hne : ra ≠ rb) {w t : Nat} (h : RootRel r w t) :
    RootRel (r.insert rb ra) w (if t = rb then ra else t) := by
  have hra : RootRel (r.insert rb ra) ra ra :=
    .root (by rw [get_insert, if_neg hne]; exact ha)
  induction h with
  | @absent v h0 =>
    have hv : v ≠ rb := by intro e; subst e; rw [hb] at h0; cases h0
    rw [if_neg hv]
    exact .absent (by rw [get_insert, if_neg hv]; exact h0)
  | @root v h0 =>
    by_cases hv : v = rb
    · subst hv; rw [if_pos rfl]
      exact .step (by rw [get_insert, if_pos rfl]) hne hra
    · rw [if_neg hv]
      exact .root (by rw [get_insert, if_neg hv]; exact h0)
  | @step v p t h0 hpv _ ih =>
    have hv : v ≠ rb := by
      intro e; subst e; rw [hb] at h0; injection h0 with h0; exact hpv h0.symm
    exact .step (by rw [get_insert, if_neg hv]; exact h0) hpv ih

theorem isSome_get_insert {V : Type} (m : VMap V) (v : Nat) (t : V) (w : Nat) :
    ((m.insert v t).get w).isSome = ((m.get w).isSome || decide (w = v)) := by
  rw [get_insert]
  by_cases hw : w = v <;> simp [hw]

/-! ### The forest -/

namespace DS
variable {D : Type}

/-- Forest invariant: both maps well-formed, parent map acyclic with present parents. -/
def Inv (s : DS D) : Prop :=
  WF s.reps ∧ WF s.data ∧
    ∃ rank : Nat → Nat, Acyc s.reps rank

/-- The acyclicity clause of `Inv`, spelled out. -/
theorem inv_iff (s : DS D) : Inv s ↔ (WF s.reps ∧ WF s.data ∧
    ∃ rank : Nat → Nat, ∀ i p, s.reps.get i = some p → p ≠ i →
      rank i < rank p ∧ (s.reps.get p).isSome) := Iff.rfl

/-- The root `find` would return for `v` (`v` itself if absent); no mutation. -/
def rootOf (s : DS D) (v : Nat) : Nat := rootOfMap s.reps v

/-- Data stored at cell `r`, with the monoid identity for "nothing stored". -/
def dataAt (M : Monoid D) (s : DS D) (r : Nat) : D := (s.data.get r).getD M.identity

/-- Presence of an element. -/
def mem (s : DS D) (v : Nat) : Bool := (s.reps.get v).isSome

theorem get_empty {V : Type} (k : Nat) : (VMap.empty : VMap V).get k = none := by
  simp [VMap.get, VMap.empty]

theorem inv_empty : Inv (DS.empty : DS D) := by
  refine ⟨wf_empty, wf_empty, fun _ => 0, ?_⟩
  intro i p h
  have : (DS.empty : DS D).reps.get i = none := get_empty i
  rw [this] at h; cases h

theorem rootOf_rel {s : DS D} (h : Inv s) (v : Nat) : RootRel s.reps v (rootOf s v) := by
  obtain ⟨_, _, rank, hc⟩ := h
  exact rootOfMap_rel hc v

theorem rootOf_eq {s : DS D} (h : Inv s) {v t : Nat} (hr : RootRel s.reps v t) :
    rootOf s v = t :=
  (rootOf_rel h v).det hr

/-- Fixed points of the parent map are exactly the present elements that are their own root. -/
theorem isRoot_iff {s : DS D} (h : Inv s) (k : Nat) :
    s.reps.get k = some k ↔ (s.mem k = true ∧ rootOf s k = k) := by
  constructor
  · intro hk
    exact ⟨by simp [mem, hk], rootOf_eq h (.root hk)⟩
  · rintro ⟨h1, h2⟩
    obtain ⟨_, _, rank, hc⟩ := h
    have := (rootOfMap_rel hc k).end_root_of_present hc h1
    unfold rootOf at h2
    rw [h2] at this; exact this

theorem rootOf_absent {s : DS D} (h : Inv s) {v : Nat} (hv : s.reps.get v = none) :
    rootOf s v = v := rootOf_eq h (.absent hv)

theorem rootOf_idem {s : DS D} (h : Inv s) (v : Nat) : rootOf s (rootOf s v) = rootOf s v := by
  obtain ⟨h1, h2, rank, hc⟩ := h
  exact rootOfMap_eq hc ((rootOfMap_rel hc v).end_self hc)

/-- Full specification of `find` (internal form, with the compression relation). -/
theorem find_full (s : DS D) (v : Nat) (h : Inv s) :
    ∃ s' r, s.find v = .ok (s', r) ∧ Inv s' ∧ RootRel s.reps v r ∧ Compress s.reps s'.reps ∧
      s'.data = s.data ∧ (∀ w, s'.mem w = (s.mem w || decide (w = v))) := by
  obtain ⟨hr, hd, rank, hc⟩ := h
  unfold find
  cases hv : s.reps.get v with
  | none =>
    have h1 := findFuel_absent (r := s.reps) (s.reps.data.length + v + 1) v hv
    have : fuelFor s.reps v = s.reps.data.length + v + 1 + 2 := rfl
    rw [this, h1]
    have h3 := compress_insert_absent hv
    exact ⟨_, _, rfl, ⟨wf_insert _ _ _ hr, hd, rank, h3.acyc hc⟩, .absent hv, h3, rfl,
      isSome_get_insert s.reps v v⟩
  | some p =>
    have hpres : (s.reps.get v).isSome := by rw [hv]; rfl
    obtain ⟨r', t, h1, h2, h3, h4, h5⟩ :=
      findFuel_present hc hr (fuelFor s.reps v) v hpres
        (by have := mu_le s.reps rank v; unfold fuelFor; omega)
    rw [h1]
    refine ⟨_, _, rfl, ⟨h4, hd, rank, h3.acyc hc⟩, h2, h3, rfl, ?_⟩
    intro w
    simp only [mem, h5]
    by_cases hw : w = v
    · subst hw; simp [hpres]
    · simp [hw]

/-- Compression leaves every root unchanged. -/
theorem rootOf_compress {s s' : DS D} (h : Inv s) (hc : Compress s.reps s'.reps) (w : Nat) :
    rootOf s' w = rootOf s w := by
  obtain ⟨_, _, rank, hr⟩ := h
  exact hc.rootOfMap hr w

/-- `find` never faults, returns `rootOf s v`, preserves every root and the data, registers `v`,
and the result is a fixed point of the (compressed) parent map. -/
theorem find_spec (s : DS D) (v : Nat) (h : Inv s) :
    ∃ s' r, s.find v = .ok (s', r) ∧ Inv s' ∧ r = rootOf s v ∧
      (∀ w, rootOf s' w = rootOf s w) ∧ s'.data = s.data ∧ s'.reps.get r = some r ∧
      (∀ w, s'.mem w = (s.mem w || decide (w = v))) := by
  obtain ⟨s', r, h1, h2, h3, h4, h5, h6⟩ := find_full s v h
  have hr : r = rootOf s v := (rootOf_eq h h3).symm
  refine ⟨s', r, h1, h2, hr, rootOf_compress h h4, h5, ?_, h6⟩
  -- `r` is present in `s'`: it is the root of the present `v`
  have h8 : rootOf s' v = r := by rw [rootOf_compress h h4]; exact hr.symm
  have hv : s'.mem v = true := by rw [h6]; simp
  obtain ⟨_, _, rank, hc⟩ := h2
  have := (rootOfMap_rel hc v).end_root_of_present hc hv
  unfold rootOf at h8
  rw [h8] at this; exact this

/-! #### `insert` -/

theorem insert_spec (s : DS D) (v : Nat) (h : Inv s) :
    Inv (s.insert v) ∧ (∀ w, rootOf (s.insert v) w = rootOf s w) ∧ (s.insert v).mem v = true ∧
      (∀ w, (s.insert v).mem w = (s.mem w || decide (w = v))) ∧ (s.insert v).data = s.data := by
  unfold insert
  cases hv : s.reps.get v with
  | some p =>
    refine ⟨h, fun _ => rfl, by simp [mem, hv], ?_, rfl⟩
    intro w
    by_cases hw : w = v
    · subst hw; simp [mem, hv]
    · simp [hw]
  | none =>
    have hcomp := compress_insert_absent hv
    have hinv : Inv ({ s with reps := s.reps.insert v v } : DS D) := by
      obtain ⟨hr, hd, rank, hc⟩ := h
      exact ⟨wf_insert _ _ _ hr, hd, rank, hcomp.acyc hc⟩
    exact ⟨hinv, fun w => rootOf_compress h hcomp w, by simp [mem, get_insert],
      isSome_get_insert s.reps v v, rfl⟩

/-! #### `getData`, `setData`, `addData` -/

theorem getData_spec (s : DS D) (v : Nat) (h : Inv s) :
    ∃ s', s.getData v = .ok (s', s.data.get (rootOf s v)) ∧ Inv s' ∧
      (∀ w, rootOf s' w = rootOf s w) ∧ s'.data = s.data ∧
      (∀ w, s'.mem w = (s.mem w || decide (w = v))) := by
  obtain ⟨s1, r, h1, h2, hr, h4, h5, _, h6⟩ := find_spec s v h
  refine ⟨s1, ?_, h2, h4, h5, h6⟩
  unfold getData
  rw [h1]; simp only []
  rw [h5, hr]

theorem setData_spec (s : DS D) (v : Nat) (d : D) (h : Inv s) :
    ∃ s', s.setData v d = .ok s' ∧ Inv s' ∧ (∀ w, rootOf s' w = rootOf s w) ∧
      (∀ k, s'.data.get k = if k = rootOf s v then some d else s.data.get k) ∧
      (∀ w, s'.mem w = (s.mem w || decide (w = v))) := by
  obtain ⟨s1, r, h1, h2, hr, h4, h5, _, h6⟩ := find_spec s v h
  refine ⟨{ s1 with data := s1.data.insert r d }, ?_, ?_, h4, ?_, h6⟩
  · unfold setData; rw [h1]
  · obtain ⟨a, b, c⟩ := h2
    exact ⟨a, wf_insert _ _ _ b, c⟩
  · intro k; simp only [get_insert, h5, hr]

theorem addData_spec (M : Monoid D) (s : DS D) (v : Nat) (d : D) (h : Inv s) :
    ∃ s', s.addData M v d = .ok s' ∧ Inv s' ∧ (∀ w, rootOf s' w = rootOf s w) ∧
      (∀ k, s'.data.get k =
        if k = rootOf s v then some (M.combine (dataAt M s (rootOf s v)) d) else s.data.get k) ∧
      (∀ w, s'.mem w = (s.mem w || decide (w = v))) := by
  obtain ⟨s1, r, h1, h2, hr, h4, h5, _, h6⟩ := find_spec s v h
  obtain ⟨hw1, hw2, hw3⟩ := h2
  obtain ⟨d1, hrem, hwf1, hget⟩ := remove_spec s1.data r hw2
  refine ⟨{ s1 with data := d1.insert r (M.combine ((s1.data.get r).getD M.identity) d) },
    ?_, ⟨hw1, wf_insert _ _ _ hwf1, hw3⟩, h4, fun k => ?_, h6⟩
  · unfold addData; rw [h1]; simp only []; rw [hrem]
  · rw [get_insert, hget, h5, ← hr]
    by_cases hk : k = r
    · rw [if_pos hk, if_pos hk]; rfl
    · rw [if_neg hk, if_neg hk, if_neg hk]

/-! #### `union` -/

theorem union_spec (M : Monoid D) (s : DS D) (a b : Nat) (h : Inv s) :
    ∃ s', s.union M a b = .ok s' ∧ Inv s' ∧
      (∀ w, s'.mem w = (s.mem w || decide (w = a) || decide (w = b))) ∧
      (rootOf s a = rootOf s b →
        (∀ w, rootOf s' w = rootOf s w) ∧ s'.data = s.data) ∧
      (rootOf s a ≠ rootOf s b →
        (∀ w, rootOf s' w = if rootOf s w = rootOf s b then rootOf s a else rootOf s w) ∧
        (∀ k, s'.data.get k =
          if k = rootOf s a then
            some (M.combine (dataAt M s (rootOf s a)) (dataAt M s (rootOf s b)))
          else if k = rootOf s b then none
          else s.data.get k)) := by
  obtain ⟨s1, ra, e1, i1, hra, r1, d1, f1, p1⟩ := find_spec s a h
  obtain ⟨s2, rb, e2, i2, hrb, r2, d2, hfb, p2⟩ := find_spec s1 b i1
  rw [r1] at hrb
  have hroots2 : ∀ w, rootOf s2 w = rootOf s w := fun w => by rw [r2, r1]
  have hmem2 : ∀ w, s2.mem w = (s.mem w || decide (w = a) || decide (w = b)) := fun w => by
    rw [p2, p1]
  have hdata2 : s2.data = s.data := by rw [d2, d1]
  -- `ra`, a root of `s1`, is still one after the second `find`
  have hfa : s2.reps.get ra = some ra := by
    obtain ⟨m1, t1⟩ := (isRoot_iff i1 ra).mp f1
    exact (isRoot_iff i2 ra).mpr ⟨by rw [p2, m1]; rfl, by rw [r2]; exact t1⟩
  unfold union
  rw [e1]; simp only []
  rw [e2]; simp only []
  by_cases hab : ra = rb
  · rw [if_pos hab]
    refine ⟨s2, rfl, i2, hmem2, fun _ => ⟨hroots2, hdata2⟩, fun hne => ?_⟩
    exact absurd (by rw [← hra, ← hrb]; exact hab) hne
  · rw [if_neg hab]
    obtain ⟨hw1, hw2, rank, hc⟩ := i2
    obtain ⟨dm, hrem, hwf1, hget⟩ := remove_spec s2.data rb hw2
    rw [hrem]; simp only []
    have hinv' : Inv (⟨s2.reps.insert rb ra, dm.insert ra (M.combine
        ((s2.data.get ra).getD M.identity) ((s2.data.get rb).getD M.identity))⟩ : DS D) :=
      ⟨wf_insert _ _ _ hw1, wf_insert _ _ _ hwf1, _, link_acyc hc hfa hab⟩
    refine ⟨_, rfl, hinv', fun w => ?_, fun heq => ?_, fun _ => ⟨fun w => ?_, fun k => ?_⟩⟩
    · rw [← hmem2 w]
      simp only [mem, get_insert]
      by_cases hw : w = rb
      · subst hw; simp [hfb]
      · simp [hw]
    · exact absurd (by rw [hra, hrb]; exact heq) hab
    · have hrel : RootRel s2.reps w (rootOf s2 w) := rootOfMap_rel hc w
      rw [rootOf_eq hinv' (link_rootRel hfa hfb hab hrel), hroots2 w, hra, hrb]
    · rw [get_insert, hget, hdata2, ← hra, ← hrb]
      by_cases hk : k = ra
      · rw [if_pos hk, if_pos hk]; rfl
      · rw [if_neg hk, if_neg hk]

/-! #### `values` and `sets` -/

theorem pairwise_iterFrom {V : Type} (l : List (Option V)) (n : Nat) :
    (iterFrom n l).Pairwise (fun a b => a.1 < b.1) := by
  induction l generalizing n with
  | nil => simp [iterFrom]
  | cons x l ih =>
    cases x with
    | none => exact ih (n + 1)
    | some v =>
      rw [iterFrom]
      refine List.Pairwise.cons ?_ (ih (n + 1))
      intro b hb
      obtain ⟨i, w⟩ := b
      have := (mem_iterFrom l (n + 1) i w).mp hb
      show n < i
      omega

theorem nodup_of_pairwise_lt {l : List Nat} (h : l.Pairwise (· < ·)) : l.Nodup :=
  List.Pairwise.imp (fun hab => Nat.ne_of_lt hab) h

theorem pairwise_indices {V : Type} (m : VMap V) : m.indices.Pairwise (· < ·) := by
  unfold indices iter
  rw [List.pairwise_map]
  exact pairwise_iterFrom _ _

theorem mem_indices {V : Type} (m : VMap V) (k : Nat) : k ∈ m.indices ↔ (m.get k).isSome := by
  unfold indices
  constructor
  · intro h
    obtain ⟨⟨i, v⟩, h1, h2⟩ := List.mem_map.mp h
    have := (mem_iter m i v).mp h1
    simp at h2; subst h2; rw [this]; rfl
  · intro h
    cases hv : m.get k with
    | none => rw [hv] at h; cases h
    | some v => exact List.mem_map.mpr ⟨(k, v), (mem_iter m k v).mpr hv, rfl⟩

/-- `values` lists exactly the present elements, each once (in increasing order). -/
theorem values_spec (s : DS D) :
    (∀ v, v ∈ s.values ↔ s.mem v = true) ∧ s.values.Nodup ∧ s.values.Pairwise (· < ·) :=
  ⟨fun v => mem_indices s.reps v, nodup_of_pairwise_lt (pairwise_indices _), pairwise_indices _⟩

/-- The list of roots `sets` folds over. -/
def rootsList (s : DS D) : List Nat :=
  (s.reps.iter.filter (fun (k, v) => k == v)).map (·.1)

/-- One iteration of the `sets` loop. -/
def setsStep (M : Monoid D) (acc : DS D × List (Nat × D)) (k : Nat) : DS D × List (Nat × D) :=
  match acc.1.data.get k with
  | some d => (acc.1, acc.2 ++ [(k, d)])
  | none => ({ acc.1 with data := acc.1.data.insert k M.default }, acc.2 ++ [(k, M.default)])

theorem sets_eq (M : Monoid D) (s : DS D) :
    s.sets M = (rootsList s).foldl (setsStep M) (s, []) := rfl

theorem mem_rootsList (s : DS D) (k : Nat) : k ∈ rootsList s ↔ s.reps.get k = some k := by
  unfold rootsList
  constructor
  · intro h
    obtain ⟨⟨i, v⟩, h1, h2⟩ := List.mem_map.mp h
    obtain ⟨h3, h4⟩ := List.mem_filter.mp h1
    have := (mem_iter s.reps i v).mp h3
    simp at h2 h4; subst h2 h4; exact this
  · intro h
    exact List.mem_map.mpr ⟨(k, k), List.mem_filter.mpr ⟨(mem_iter _ _ _).mpr h, by simp⟩, rfl⟩

theorem pairwise_rootsList (s : DS D) : (rootsList s).Pairwise (· < ·) := by
  unfold rootsList
  rw [List.pairwise_map]
  exact (pairwise_iterFrom _ _).sublist List.filter_sublist

theorem setsStep_spec (M : Monoid D) (acc : DS D × List (Nat × D)) (k : Nat) :
    (setsStep M acc k).1.reps = acc.1.reps ∧
    (WF acc.1.data → WF (setsStep M acc k).1.data) ∧
    (setsStep M acc k).2 = acc.2 ++ [(k, (acc.1.data.get k).getD M.default)] ∧
    ∀ j, (setsStep M acc k).1.data.get j =
      if j = k then some ((acc.1.data.get k).getD M.default) else acc.1.data.get j := by
  unfold setsStep
  cases hk : acc.1.data.get k with
  | some d =>
    refine ⟨rfl, id, rfl, ?_⟩
    intro j
    by_cases hj : j = k
    · subst hj; rw [if_pos rfl]; exact hk
    · rw [if_neg hj]
  | none =>
    refine ⟨rfl, fun h => wf_insert _ _ _ h, rfl, ?_⟩
    intro j
    simp only [get_insert]; rfl

theorem sets_fold (M : Monoid D) :
    ∀ (ks : List Nat) (acc : DS D × List (Nat × D)),
      (ks.foldl (setsStep M) acc).1.reps = acc.1.reps ∧
      (WF acc.1.data → WF (ks.foldl (setsStep M) acc).1.data) ∧
      (ks.foldl (setsStep M) acc).2 =
        acc.2 ++ ks.map (fun k => (k, (acc.1.data.get k).getD M.default)) ∧
      ∀ j, (ks.foldl (setsStep M) acc).1.data.get j =
        if j ∈ ks then some ((acc.1.data.get j).getD M.default) else acc.1.data.get j := by
  intro ks
  induction ks with
  | nil => intro acc; simp
  | cons k ks ih =>
    intro acc
    obtain ⟨s1, s2, s3, s4⟩ := setsStep_spec M acc k
    obtain ⟨i1, i2, i3, i4⟩ := ih (setsStep M acc k)
    have hgetD : ∀ j, ((setsStep M acc k).1.data.get j).getD M.default =
        (acc.1.data.get j).getD M.default := by
      intro j; rw [s4]
      by_cases hj : j = k
      · subst hj; rw [if_pos rfl]; rfl
      · rw [if_neg hj]
    rw [List.foldl_cons]
    refine ⟨i1.trans s1, fun h => i2 (s2 h), ?_, ?_⟩
    · rw [i3, s3, List.map_cons, List.append_assoc]
      simp only [hgetD, List.singleton_append]
    · intro j
      rw [i4, hgetD, s4]
      by_cases hj : j = k
      · subst hj; simp
      · simp only [List.mem_cons, hj, false_or, if_false]

/-- `sets` returns exactly one pair per root, paired with its data (or `default`), stores
`default` where a root had no data, changes no root and preserves the invariant. -/
theorem sets_spec (M : Monoid D) (s : DS D) (h : Inv s) :
    ∃ s' l, s.sets M = (s', l) ∧ Inv s' ∧ s'.reps = s.reps ∧ (∀ w, rootOf s' w = rootOf s w) ∧
      l = (rootsList s).map (fun k => (k, (s.data.get k).getD M.default)) ∧
      (l.map (·.1)).Nodup ∧
      (∀ k d, (k, d) ∈ l ↔ (s.reps.get k = some k ∧ d = (s.data.get k).getD M.default)) ∧
      (∀ k, s'.data.get k =
        if s.reps.get k = some k then some ((s.data.get k).getD M.default) else s.data.get k) := by
  obtain ⟨f1, f2, f3, f4⟩ := sets_fold M (rootsList s) (s, [])
  rw [← sets_eq] at f1 f2 f3 f4
  obtain ⟨hr, hd, rank, hc⟩ := h
  refine ⟨(s.sets M).1, (s.sets M).2, rfl, ⟨?_, f2 hd, rank, ?_⟩, f1, ?_, ?_, ?_, ?_, ?_⟩
  · rw [f1]; exact hr
  · rw [f1]; exact hc
  · intro w; unfold rootOf; rw [f1]
  · simpa using f3
  · rw [f3]
    simp only [List.nil_append, List.map_map]
    have : ((fun x : Nat × D => x.1) ∘ fun k => (k, (s.data.get k).getD M.default)) = id := rfl
    rw [this, List.map_id]
    exact nodup_of_pairwise_lt (pairwise_rootsList s)
  · intro k d
    rw [f3]
    simp only [List.nil_append, List.mem_map, Prod.mk.injEq]
    constructor
    · rintro ⟨k', h1, rfl, rfl⟩
      exact ⟨(mem_rootsList s _).mp h1, rfl⟩
    · rintro ⟨h1, rfl⟩
      exact ⟨k, (mem_rootsList s k).mpr h1, rfl, rfl⟩
  · intro k
    rw [f4]
    simp only [mem_rootsList]

/-! ### Whole histories -/

/-- Run a history, collecting the observations. -/
def run (M : Monoid D) : DS D → List (Op D) → DS D × List (Obs D)
  | s, [] => (s, [])
  | s, op :: ops =>
    ((run M (step M s op).1 ops).1, (step M s op).2 :: (run M (step M s op).1 ops).2)

end DS

/-! ### The naive partition and refinement -/

/-- Naive partition: which elements are registered, a class-representative function, and the
data attached to each representative.  No forest, no compression, no sizes. -/
structure Naive (D : Type) where
  mem : Nat → Bool
  rep : Nat → Nat
  dat : Nat → Option D

namespace Naive
variable {D : Type}

def empty : Naive D := ⟨fun _ => false, fun v => v, fun _ => none⟩

/-- Register `v` (every operation that names an element registers it). -/
def touch (n : Naive D) (v : Nat) : Naive D :=
  { n with mem := fun w => n.mem w || decide (w = v) }

/-- Data of representative `k`, with the monoid identity for "none yet". -/
def cdata (M : Monoid D) (n : Naive D) (k : Nat) : D := (n.dat k).getD M.identity

def sameClass (n : Naive D) (a b : Nat) : Prop := n.rep a = n.rep b

/-- One operation on the naive partition: the new partition and the set of observations the
specification allows (a single one for `find`/`getData`; `sets`/`values` up to order). -/
def step (M : Monoid D) (n : Naive D) : Op D → Naive D × (Obs D → Prop)
  | .insert v => (n.touch v, fun o => o = .unit)
  | .find v => (n.touch v, fun o => o = .root (n.rep v))
  | .getData v => (n.touch v, fun o => o = .data (n.dat (n.rep v)))
  | .setData v d =>
    ({ n.touch v with dat := fun k => if k = n.rep v then some d else n.dat k },
      fun o => o = .unit)
  | .addData v d =>
    ({ n.touch v with
        dat := fun k => if k = n.rep v then some (M.combine (n.cdata M (n.rep v)) d)
                        else n.dat k },
      fun o => o = .unit)
  | .union a b =>
    (if n.rep a = n.rep b then (n.touch a).touch b
     else
      ⟨((n.touch a).touch b).mem,
       fun w => if n.rep w = n.rep b then n.rep a else n.rep w,
       fun k => if k = n.rep a then
                  some (M.combine (n.cdata M (n.rep a)) (n.cdata M (n.rep b)))
                else if k = n.rep b then none
                else n.dat k⟩,
      fun o => o = .unit)
  | .sets =>
    ({ n with
        dat := fun k => if n.mem k = true ∧ n.rep k = k then some ((n.dat k).getD M.default)
                        else n.dat k },
      fun o => ∃ l, o = .sets l ∧ (l.map (·.1)).Nodup ∧
        ∀ k d, (k, d) ∈ l ↔ (n.mem k = true ∧ n.rep k = k ∧ d = (n.dat k).getD M.default))
  | .values => (n, fun o => ∃ l, o = .values l ∧ l.Nodup ∧ ∀ v, v ∈ l ↔ n.mem v = true)

/-- Run a history on the naive partition, collecting the allowed-observation predicates. -/
def run (M : Monoid D) : Naive D → List (Op D) → Naive D × List (Obs D → Prop)
  | n, [] => (n, [])
  | n, op :: ops =>
    ((run M (step M n op).1 ops).1, (step M n op).2 :: (run M (step M n op).1 ops).2)

end Naive

namespace DS
variable {D : Type}

/-- Position-wise: each observation satisfies the corresponding allowed-observation predicate
(and the two lists have the same length). -/
def ObsMatch : List (Obs D) → List (Obs D → Prop) → Prop
  | [], [] => True
  | o :: os, P :: Ps => P o ∧ ObsMatch os Ps
  | _, _ => False

/-- Abstraction relation: the forest `s` represents the naive partition `n`. -/
def Abs (s : DS D) (n : Naive D) : Prop :=
  Inv s ∧ (∀ v, s.mem v = n.mem v) ∧ (∀ v, rootOf s v = n.rep v) ∧ (∀ k, s.data.get k = n.dat k)

theorem abs_empty : Abs (DS.empty : DS D) Naive.empty :=
  ⟨inv_empty, fun v => by simp [mem, DS.empty, Naive.empty]; exact get_empty v,
    fun v => rootOf_absent inv_empty (get_empty v), fun k => get_empty k⟩

/-- An operation that registers `v`, keeps every root and leaves the data cells `dat'`. -/
theorem abs_touch {s s' : DS D} {n : Naive D} {v : Nat} {dat' : Nat → Option D} (h : Abs s n)
    (hi : Inv s') (hm : ∀ w, s'.mem w = (s.mem w || decide (w = v)))
    (hr : ∀ w, rootOf s' w = rootOf s w) (hd : ∀ k, s'.data.get k = dat' k) :
    Abs s' { n.touch v with dat := dat' } :=
  ⟨hi, fun w => by rw [hm, h.2.1]; rfl, fun w => by rw [hr, h.2.2.1]; rfl, hd⟩

/-- Simulation: one forest step is matched by one naive step, and the forest's observation is
one the naive partition allows. -/
theorem step_refines (M : Monoid D) (s : DS D) (n : Naive D) (op : Op D) (h : Abs s n) :
    Abs (step M s op).1 (Naive.step M n op).1 ∧ (Naive.step M n op).2 (step M s op).2 := by
  have habs := h
  obtain ⟨hi, hm, hr, hd⟩ := h
  cases op with
  | insert v =>
    obtain ⟨h1, h2, _, h4, h5⟩ := insert_spec s v hi
    exact ⟨abs_touch habs h1 h4 h2 (fun k => (congrArg (·.get k) h5).trans (hd k)), rfl⟩
  | find v =>
    obtain ⟨s', r, e, h1, hr', h3, h4, _, h5⟩ := find_spec s v hi
    simp only [step, e, Naive.step]
    exact ⟨abs_touch habs h1 h5 h3 (fun k => by rw [h4]; exact hd k), by rw [hr', hr]⟩
  | getData v =>
    obtain ⟨s', e, h1, h2, h3, h4⟩ := getData_spec s v hi
    simp only [step, e, Naive.step]
    exact ⟨abs_touch habs h1 h4 h2 (fun k => by rw [h3]; exact hd k), by rw [hd, hr]⟩
  | setData v d =>
    obtain ⟨s', e, h1, h2, h3, h4⟩ := setData_spec s v d hi
    simp only [step, e, Naive.step]
    exact ⟨abs_touch habs h1 h4 h2 (fun k => by rw [h3, hd, hr]), trivial⟩
  | addData v d =>
    obtain ⟨s', e, h1, h2, h3, h4⟩ := addData_spec M s v d hi
    simp only [step, e, Naive.step]
    exact ⟨abs_touch habs h1 h4 h2
      (fun k => by rw [h3, hd, hr]; simp only [dataAt, Naive.cdata, hd]), trivial⟩
  | union a b =>
    obtain ⟨s', e, h1, h2, h3, h4⟩ := union_spec M s a b hi
    simp only [step, e, Naive.step]
    refine ⟨?_, trivial⟩
    by_cases hab : n.rep a = n.rep b
    · rw [if_pos hab]
      obtain ⟨h5, h6⟩ := h3 (by rw [hr, hr]; exact hab)
      refine ⟨h1, ?_, ?_, ?_⟩
      · intro w; rw [h2, hm]; rfl
      · intro w; rw [h5, hr]; rfl
      · intro k; rw [h6, hd]; rfl
    · rw [if_neg hab]
      obtain ⟨h5, h6⟩ := h4 (by rw [hr, hr]; exact hab)
      refine ⟨h1, ?_, ?_, ?_⟩
      · intro w; rw [h2, hm]; rfl
      · intro w; rw [h5]; simp only [hr]
      · intro k; rw [h6]; simp only [hr, hd, dataAt, Naive.cdata]
  | sets =>
    obtain ⟨s', l, e, h1, h2, h3, _, h5, h6, h7⟩ := sets_spec M s hi
    simp only [step, e, Naive.step]
    have hroot : ∀ k, s.reps.get k = some k ↔ (n.mem k = true ∧ n.rep k = k) := by
      intro k; rw [isRoot_iff hi, hm, hr]
    refine ⟨⟨h1, ?_, ?_, ?_⟩, l, rfl, h5, ?_⟩
    · intro w; simp only [mem, h2]; exact hm w
    · intro w; rw [h3, hr]
    · intro k; rw [h7]; simp only [hroot, hd]
    · intro k d; rw [h6, hroot, hd, and_assoc]
  | values =>
    obtain ⟨v1, v2, _⟩ := values_spec s
    refine ⟨⟨hi, hm, hr, hd⟩, s.values, rfl, v2, ?_⟩
    intro v; rw [v1, hm]

theorem run_refines (M : Monoid D) (ops : List (Op D)) :
    ∀ (s : DS D) (n : Naive D), Abs s n →
      Abs (run M s ops).1 (Naive.run M n ops).1 ∧
      ObsMatch (run M s ops).2 (Naive.run M n ops).2 := by
  induction ops with
  | nil => intro s n h; exact ⟨h, trivial⟩
  | cons op ops ih =>
    intro s n h
    obtain ⟨h1, h2⟩ := step_refines M s n op h
    obtain ⟨h3, h4⟩ := ih _ _ h1
    exact ⟨h3, h2, h4⟩

/-- No observation the naive partition allows is a fault. -/
theorem naive_step_not_fault (M : Monoid D) (n : Naive D) (op : Op D) (f : Fault) :
    ¬ (Naive.step M n op).2 (.fault f) := by
  intro h
  cases op <;> simp [Naive.step] at h

/-- Every single step preserves the invariant and does not fault. -/
theorem step_inv (M : Monoid D) (s : DS D) (op : Op D) (h : Inv s) :
    Inv (step M s op).1 ∧ ∀ f, (step M s op).2 ≠ .fault f := by
  -- the forest represents the naive partition made of its own members, roots and data
  obtain ⟨h1, h2⟩ := step_refines M s ⟨s.mem, rootOf s, fun k => s.data.get k⟩ op
    ⟨h, fun _ => rfl, fun _ => rfl, fun _ => rfl⟩
  exact ⟨h1.1, fun f e => naive_step_not_fault M _ op f (e ▸ h2)⟩

/-- No history run from a forest with the invariant ever faults (neither the overflow-checked
`size -= 1` nor fuel exhaustion), and the final state satisfies the invariant. -/
theorem run_inv (M : Monoid D) (ops : List (Op D)) :
    ∀ s : DS D, Inv s → Inv (run M s ops).1 ∧ ∀ o ∈ (run M s ops).2, ∀ f, o ≠ .fault f := by
  induction ops with
  | nil => intro s h; exact ⟨h, fun o ho => by cases ho⟩
  | cons op ops ih =>
    intro s h
    obtain ⟨h1, h2⟩ := step_inv M s op h
    obtain ⟨h3, h4⟩ := ih _ h1
    refine ⟨h3, fun o ho => ?_⟩
    rcases List.mem_cons.mp ho with rfl | ho
    · exact h2
    · exact h4 o ho

end DS

end SLE.Containers
