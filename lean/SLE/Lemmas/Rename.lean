import SLE.Model.TC
import SLE.Lemmas.TCSlots
import SLE.Lemmas.TCRules
import SLE.Lemmas.Layout
/-
C11 (model level): consistently renumbering the constants of a program renumbers the constant
storage slots and leaves every typing judgement untouched.
-/
namespace SLE.Rename
open SLE SLE.SV SLE.TC SLE.TCSlots

def mapHead (ρ : Nat → Nat) : List Nat → List Nat
  | [] => []
  | w :: r => ρ w :: r

def mapAttrs (ρ : Nat → Nat) (k : Kind) (a : List Nat) : List Nat :=
  if k = .knownData then mapHead ρ a else a

mutual
/-- replace the payload `w` of every `knownData` node by `ρ w` -/
def mapConsts (ρ : Nat → Nat) : SV → SV
  | .node k a ks s => .node k (mapAttrs ρ k a) (mapConstsList ρ ks) s
def mapConstsList (ρ : Nat → Nat) : List SV → List SV
  | [] => []
  | x :: xs => mapConsts ρ x :: mapConstsList ρ xs
end

end SLE.Rename

namespace SLE.TC
open SLE SLE.SV SLE.Rename

mutual
/-- the same on registered trees (type variables untouched); lives in `SLE.TC` for dot notation -/
def TV.mapConsts (ρ : Nat → Nat) : TV → TV
  | .node k a ks t => .node k (mapAttrs ρ k a) (TV.mapConstsList ρ ks) t
def TV.mapConstsList (ρ : Nat → Nat) : List TV → List TV
  | [] => []
  | x :: xs => TV.mapConsts ρ x :: TV.mapConstsList ρ xs
end

def RegState.mapConsts (ρ : Nat → Nat) (st : RegState) : RegState :=
  { next := st.next
    stable := st.stable.map (fun p => (Rename.mapConsts ρ p.1, TV.mapConsts ρ p.2))
    values := st.values.map (TV.mapConsts ρ)
    judgements := st.judgements }

end SLE.TC

namespace SLE.Rename
open SLE SLE.SV SLE.TC SLE.TCSlots

theorem mapConstsList_eq_map (ρ : Nat → Nat) : ∀ ks, mapConstsList ρ ks = ks.map (mapConsts ρ)
  | [] => rfl
  | x :: xs => by simp only [mapConstsList, List.map_cons, mapConstsList_eq_map ρ xs]

theorem TV.mapConstsList_eq_map (ρ : Nat → Nat) : ∀ ks, TV.mapConstsList ρ ks = ks.map (TV.mapConsts ρ)
  | [] => rfl
  | x :: xs => by simp only [TV.mapConstsList, List.map_cons, TV.mapConstsList_eq_map ρ xs]

/-! ### structural equality, node count and stability are invariant -/

theorem mapHead_inj {ρ : Nat → Nat} (hρ : Function.Injective ρ) {a b : List Nat}
    (h : mapHead ρ a = mapHead ρ b) : a = b := by
  cases a <;> cases b <;> simp only [mapHead, List.cons.injEq, reduceCtorEq] at h ⊢
  exact ⟨hρ h.1, h.2⟩

theorem mapAttrs_beq {ρ : Nat → Nat} (hρ : Function.Injective ρ) (k : Kind) (a b : List Nat) :
    (mapAttrs ρ k a == mapAttrs ρ k b) = (a == b) := by
  unfold mapAttrs
  split
  · rw [Bool.eq_iff_iff]
    simp only [beq_iff_eq]
    exact ⟨mapHead_inj hρ, fun h => by rw [h]⟩
  · rfl

mutual
theorem beq_mapConsts {ρ : Nat → Nat} (hρ : Function.Injective ρ) :
    ∀ (a b : SV), SV.beq (mapConsts ρ a) (mapConsts ρ b) = SV.beq a b
  | .node k1 a1 ks1 s1, .node k2 a2 ks2 s2 => by
    simp only [mapConsts, SV.beq]
    rw [beqList_mapConsts hρ ks1 ks2]
    by_cases hk : k1 = k2
    · subst hk
      rw [mapAttrs_beq hρ]
    · have : (k1 == k2) = false := by simpa using hk
      simp only [this, Bool.false_and]
theorem beqList_mapConsts {ρ : Nat → Nat} (hρ : Function.Injective ρ) :
    ∀ (a b : List SV), SV.beqList (mapConstsList ρ a) (mapConstsList ρ b) = SV.beqList a b
  | [], [] => rfl
  | x :: xs, y :: ys => by
    simp only [mapConstsList, SV.beqList]
    rw [beq_mapConsts hρ x y, beqList_mapConsts hρ xs ys]
  | [], _ :: _ => rfl
  | _ :: _, [] => rfl
end

mutual
theorem nodeCount_mapConsts (ρ : Nat → Nat) : ∀ v, nodeCount (mapConsts ρ v) = nodeCount v
  | .node k a ks s => by simp only [mapConsts, nodeCount, nodeCountList_mapConsts ρ ks]
theorem nodeCountList_mapConsts (ρ : Nat → Nat) : ∀ ks, nodeCountList (mapConstsList ρ ks) = nodeCountList ks
  | [] => rfl
  | x :: xs => by
    simp only [mapConstsList, nodeCountList, nodeCount_mapConsts ρ x, nodeCountList_mapConsts ρ xs]
end

theorem isStable_mapConsts (ρ : Nat → Nat) : ∀ (fuel : Nat) (v : SV),
    isStable fuel (mapConsts ρ v) = isStable fuel v := by
  intro fuel
  induction fuel with
  | zero => intro v; cases v; rfl
  | succ n ih =>
    intro v
    obtain ⟨k, a, ks, s⟩ := v
    simp only [mapConsts, isStable, mapConstsList_eq_map, List.any_map]
    congr 1
    apply List.any_congr rfl
    intro x
    exact ih x

/-! ### registration commutes with renaming -/

theorem regList_mapConsts (ρ : Nat → Nat) (fuel : Nat)
    (ih : ∀ st v, register fuel (st.mapConsts ρ) (mapConsts ρ v)
        = ((register fuel st v).1.mapConsts ρ, (register fuel st v).2.mapConsts ρ)) :
    ∀ (ks : List SV) (st : RegState),
      regList fuel (st.mapConsts ρ) (mapConstsList ρ ks)
        = ((regList fuel st ks).1.mapConsts ρ, TV.mapConstsList ρ (regList fuel st ks).2) := by
  intro ks
  induction ks with
  | nil => intro st; rfl
  | cons c cs ihks =>
    intro st
    simp only [mapConstsList, regList, ih, ihks, TV.mapConstsList]

theorem find_stable_mapConsts {ρ : Nat → Nat} (hρ : Function.Injective ρ) (st : RegState) (v : SV) :
    ((st.mapConsts ρ).stable.find? (fun p => p.1.beq (mapConsts ρ v))).map (·.2)
      = ((st.stable.find? (fun p => p.1.beq v)).map (·.2)).map (TV.mapConsts ρ) := by
  simp only [RegState.mapConsts, List.find?_map, Option.map_map]
  have : ((fun (p : SV × TV) => p.1.beq (mapConsts ρ v)) ∘ fun (p : SV × TV) => (mapConsts ρ p.1, TV.mapConsts ρ p.2))
      = fun (p : SV × TV) => p.1.beq v := by
    funext p
    simp only [Function.comp, beq_mapConsts hρ]
  rw [this]
  rfl

theorem register_mapConsts {ρ : Nat → Nat} (hρ : Function.Injective ρ) :
    ∀ (fuel : Nat) (st : RegState) (v : SV),
      register fuel (st.mapConsts ρ) (mapConsts ρ v)
        = ((register fuel st v).1.mapConsts ρ, (register fuel st v).2.mapConsts ρ) := by
  intro fuel
  induction fuel with
  | zero => intro st v; rfl
  | succ fuel ih =>
    intro st v
    obtain ⟨k, a, ks, s⟩ := v
    have hst : isStable (nodeCount (mapConsts ρ (.node k a ks s)) + 1) (mapConsts ρ (.node k a ks s))
        = isStable (nodeCount (.node k a ks s) + 1) (.node k a ks s) := by
      rw [nodeCount_mapConsts, isStable_mapConsts]
    have hfind := find_stable_mapConsts hρ st (.node k a ks s)
    simp only [mapConsts] at hst hfind ⊢
    rw [register_succ, register_succ, hst, hfind, regList_mapConsts ρ fuel ih]
    cases isStable (nodeCount (.node k a ks s) + 1) (.node k a ks s)
    · simp only [Bool.false_eq_true, if_false]
      simp [RegState.mapConsts, TV.mapConsts]
    · simp only [if_true]
      cases (st.stable.find? (fun p => p.1.beq (.node k a ks s))).map (·.2) with
      | some tvn => rfl
      | none => simp [RegState.mapConsts, TV.mapConsts, mapConsts]

theorem registerAll_fold_mapConsts {ρ : Nat → Nat} (hρ : Function.Injective ρ) :
    ∀ (vs : List SV) (st : RegState),
      (vs.map (mapConsts ρ)).foldl (fun st v => (register (nodeCount v + 1) st v).1) (st.mapConsts ρ)
        = (vs.foldl (fun st v => (register (nodeCount v + 1) st v).1) st).mapConsts ρ := by
  intro vs
  induction vs with
  | nil => intro st; rfl
  | cons v vs ih =>
    intro st
    simp only [List.map_cons, List.foldl_cons, nodeCount_mapConsts, register_mapConsts hρ, ih]

theorem registerAll_mapConsts {ρ : Nat → Nat} (hρ : Function.Injective ρ) (vs : List SV) :
    registerAll (vs.map (mapConsts ρ)) = (registerAll vs).mapConsts ρ :=
  registerAll_fold_mapConsts hρ vs {}

/-! ### the rules do not read constants (outside the two guarded places) -/

@[simp] theorem tv_mapConsts (ρ : Nat → Nat) (t : TV) : (t.mapConsts ρ).tv = t.tv := by
  cases t; rfl

@[simp] theorem kind_mapConsts (ρ : Nat → Nat) (t : TV) : (t.mapConsts ρ).kind = t.kind := by
  cases t; rfl

@[simp] theorem next_mapConsts (ρ : Nat → Nat) (st : RegState) : (st.mapConsts ρ).next = st.next := rfl
@[simp] theorem judgements_mapConsts (ρ : Nat → Nat) (st : RegState) :
    (st.mapConsts ρ).judgements = st.judgements := rfl
@[simp] theorem values_mapConsts (ρ : Nat → Nat) (st : RegState) :
    (st.mapConsts ρ).values = st.values.map (TV.mapConsts ρ) := rfl

theorem infer_mapConsts (ρ : Nat → Nat) (st : RegState) (v : Nat) (e : TE) :
    infer (st.mapConsts ρ) v e = (infer st v e).mapConsts ρ := by
  unfold infer
  split
  · split <;> rfl
  · rfl

theorem inferList_mapConsts (ρ : Nat → Nat) : ∀ (js : List (Nat × TE)) (st : RegState),
    inferList js (st.mapConsts ρ) = (inferList js st).mapConsts ρ
  | [], _ => rfl
  | j :: js, st => by simp only [inferList_cons, infer_mapConsts, inferList_mapConsts ρ js]

theorem bumpNext_mapConsts (ρ : Nat → Nat) (st : RegState) :
    ({ st.mapConsts ρ with next := st.next + 1 } : RegState)
      = RegState.mapConsts ρ { st with next := st.next + 1 } := rfl


theorem mapConstsList_eq_nil (ρ : Nat → Nat) (l : List TV) : TV.mapConstsList ρ l = [] ↔ l = [] := by
  cases l <;> simp [TV.mapConstsList]

theorem mapConstsList_eq_cons (ρ : Nat → Nat) (l : List TV) (x : TV) (xs : List TV) :
    TV.mapConstsList ρ l = x :: xs ↔ ∃ y ys, l = y :: ys ∧ y.mapConsts ρ = x ∧ TV.mapConstsList ρ ys = xs := by
  cases l with
  | nil => simp [TV.mapConstsList]
  | cons c cs =>
    simp only [TV.mapConstsList, List.cons.injEq]
    constructor
    · rintro ⟨rfl, rfl⟩; exact ⟨_, _, ⟨rfl, rfl⟩, rfl, rfl⟩
    · rintro ⟨y, ys, ⟨rfl, rfl⟩, rfl, rfl⟩; exact ⟨rfl, rfl⟩

theorem mapConsts_eq_node (ρ : Nat → Nat) (t : TV) (k : Kind) (a : List Nat) (ks : List TV) (tv : Nat) :
    t.mapConsts ρ = .node k a ks tv ↔
      ∃ a0 ks0, t = .node k a0 ks0 tv ∧ mapAttrs ρ k a0 = a ∧ TV.mapConstsList ρ ks0 = ks := by
  obtain ⟨k0, a0, ks0, tv0⟩ := t
  simp only [TV.mapConsts, TV.node.injEq]
  constructor
  · rintro ⟨rfl, rfl, rfl, rfl⟩
    exact ⟨_, _, ⟨rfl, rfl, rfl, rfl⟩, rfl, rfl⟩
  · rintro ⟨a1, ks1, ⟨rfl, rfl, rfl, rfl⟩, rfl, rfl⟩
    exact ⟨rfl, rfl, rfl, rfl⟩

theorem dynView_mapConsts (ρ : Nat → Nat) (key : TV) : dynView (key.mapConsts ρ) = dynView key := by
  unfold dynView
  split
  · rename_i heq
    simp only [mapConsts_eq_node, mapConstsList_eq_cons, mapConstsList_eq_nil] at heq
    obtain ⟨a0, ks0, rfl, -, c, cs, rfl, ⟨a1, ks1, rfl, -, d0, r1, rfl, rfl, f0, r2, rfl, rfl, rfl⟩, rfl⟩ := heq
    simp
  · rename_i hne
    split
    · exfalso
      rename_i a1 a2 d f t1 t2
      exact hne _ _ _ _ _ _ rfl
    · rfl

theorem mapView_mapConsts (ρ : Nat → Nat) (key : TV) : mapView (key.mapConsts ρ) = mapView key := by
  unfold mapView
  split
  · rename_i heq
    simp only [mapConsts_eq_node, mapConstsList_eq_cons, mapConstsList_eq_nil] at heq
    obtain ⟨a0, ks0, rfl, rfl, s0, r1, rfl, rfl, m0, r2, rfl, rfl, rfl⟩ := heq
    simp [mapAttrs]
  · rename_i hne
    split
    · exfalso
      exact hne _ _ _ _ rfl
    · rfl

theorem knownNat_mapConsts (ρ : Nat → Nat) (t : TV) : knownNat (t.mapConsts ρ) = (knownNat t).map ρ := by
  unfold knownNat
  split
  · rename_i heq
    simp only [mapConsts_eq_node] at heq
    obtain ⟨a0, ks0, rfl, ha, -⟩ := heq
    cases a0 with
    | nil => simp [mapAttrs, mapHead] at ha
    | cons w0 r0 =>
      simp only [mapAttrs, mapHead, if_true, List.cons.injEq] at ha
      simp [ha.1]
  · rename_i hne
    split
    · exfalso
      rename_i w r ks tv
      exact hne (ρ w) r (TV.mapConstsList ρ ks) tv (by simp [TV.mapConsts, mapAttrs, mapHead])
    · rfl

/-- The weakest node-local condition: the two constants the rules read at this node give the same
widths after renaming. -/
def SafeNode (ρ : Nat → Nat) : TV → Prop
  | .node .signExtend _ [size, _] _ => ∀ w, knownNat size = some w → sxWidth (ρ w) = sxWidth w
  | .node .callData _ [_, size] _ => cdWidth (size.mapConsts ρ) = cdWidth size
  | _ => True

theorem map_tv_mapConstsList (ρ : Nat → Nat) : ∀ r : List TV, (TV.mapConstsList ρ r).map TV.tv = r.map TV.tv
  | [] => rfl
  | x :: xs => by simp [TV.mapConstsList, map_tv_mapConstsList ρ xs]

theorem fresh_mapConsts (ρ : Nat → Nat) (t : TV) : fresh (t.mapConsts ρ) = fresh t := by
  obtain ⟨k, a, ks, tv⟩ := t
  rcases ks with _ | ⟨x, _ | ⟨y, r⟩⟩
  · rfl
  · simp only [TV.mapConsts, TV.mapConstsList, fresh, mapView_mapConsts]
  · rfl

/-- Under the node-local condition the rules emit the same judgements for the renamed node: they read
kinds, type variables and the two views, which renaming keeps, and the two widths `SafeNode` speaks of. -/
theorem emitted_mapConsts (ρ : Nat → Nat) (n : Nat) (t : TV) (hs : SafeNode ρ t) :
    emitted n (t.mapConsts ρ) = emitted n t := by
  obtain ⟨k, a, ks, tv⟩ := t
  by_cases hk : k = .knownData
  · subst hk
    rcases ks with _ | ⟨x, _ | ⟨y, _ | ⟨z, _ | ⟨u, _ | ⟨v, _ | ⟨w, _ | ⟨w', r⟩⟩⟩⟩⟩⟩⟩ <;> rfl
  · have ha : mapAttrs ρ k a = a := if_neg hk
    simp only [TV.mapConsts, ha, emitted, map_tv_mapConstsList]
    congr 1
    rcases ks with _ | ⟨x, _ | ⟨y, _ | ⟨z, _ | ⟨u, _ | ⟨v, _ | ⟨w, _ | ⟨w', r⟩⟩⟩⟩⟩⟩⟩
    case cons.cons.nil =>
      simp only [TV.mapConstsList, kidRules, tv_mapConsts, dynView_mapConsts, knownNat_mapConsts]
      cases k with
      | signExtend =>
        cases hx : knownNat x with
        | none => rfl
        | some w => simp only [Option.map_some, Option.bind_some, hs w hx]
      | callData => rw [show cdWidth (y.mapConsts ρ) = cdWidth y from hs]
      | _ => rfl
    all_goals simp only [TV.mapConstsList, kidRules, tv_mapConsts, mapView_mapConsts]

theorem applyRules_mapConsts_node (ρ : Nat → Nat) (st : RegState) (t : TV) (hs : SafeNode ρ t) :
    applyRules (st.mapConsts ρ) (t.mapConsts ρ) = (applyRules st t).mapConsts ρ := by
  rw [applyRules_eq, applyRules_eq, next_mapConsts, emitted_mapConsts ρ _ t hs, fresh_mapConsts]
  exact inferList_mapConsts ρ _ { st with next := st.next + fresh t }

/-! ### `SafeFor`: the condition on the underlying trees -/

/-- The condition at one node of the runtime tree, on the two constants the rules read as numbers:
a literal SIGNEXTEND size must keep the width derived from it, the size operand of a call-data read
(which the rule folds) must be left alone entirely. -/
def SafeTop (ρ : Nat → Nat) : Kind → List SV → Prop
  | .signExtend, [size, _] => ∀ w, Lift.knownOf size = some w → sxWidth (ρ w) = sxWidth w
  | .callData, [_, size] => mapConsts ρ size = size
  | _, _ => True

mutual
def SafeFor (ρ : Nat → Nat) : SV → Prop
  | .node k _ ks _ => SafeTop ρ k ks ∧ SafeForList ρ ks
def SafeForList (ρ : Nat → Nat) : List SV → Prop
  | [] => True
  | x :: xs => SafeFor ρ x ∧ SafeForList ρ xs
end

theorem safeForList_mem (ρ : Nat → Nat) : ∀ (ks : List SV), SafeForList ρ ks → ∀ c ∈ ks, SafeFor ρ c
  | [], _, c, hc => by cases hc
  | x :: xs, h, c, hc => by
    simp only [SafeForList] at h
    rcases List.mem_cons.mp hc with rfl | hc
    · exact h.1
    · exact safeForList_mem ρ xs h.2 c hc

theorem safeFor_kid (ρ : Nat → Nat) : ∀ k a ks s, SafeFor ρ (.node k a ks s) → ∀ c ∈ ks, SafeFor ρ c := by
  intro k a ks s h c hc
  simp only [SafeFor] at h
  exact safeForList_mem ρ ks h.2 c hc

mutual
theorem rep_fixed (ρ : Nat → Nat) : ∀ (t : TV) (v : SV), Rep t v → mapConsts ρ v = v → t.mapConsts ρ = t
  | .node k a ks tv, .node k' a' ks' s, hr, hf => by
    simp only [Rep] at hr
    obtain ⟨rfl, rfl, hl⟩ := hr
    simp only [mapConsts, SV.node.injEq, true_and, and_true] at hf
    simp only [TV.mapConsts, hf.1, repL_fixed ρ ks ks' hl hf.2]
theorem repL_fixed (ρ : Nat → Nat) : ∀ (ts : List TV) (vs : List SV), RepL ts vs → mapConstsList ρ vs = vs →
    TV.mapConstsList ρ ts = ts
  | [], [], _, _ => rfl
  | t :: ts, v :: vs, hr, hf => by
    simp only [RepL] at hr
    simp only [mapConstsList, List.cons.injEq] at hf
    simp only [TV.mapConstsList, rep_fixed ρ t v hr.1 hf.1, repL_fixed ρ ts vs hr.2 hf.2]
  | [], _ :: _, hr, _ => by simp [RepL] at hr
  | _ :: _, [], hr, _ => by simp [RepL] at hr
end

theorem rep_knownNat {t : TV} {v : SV} (hr : Rep t v) : knownNat t = Lift.knownOf v := by
  obtain ⟨k, a, ks, tv⟩ := t
  obtain ⟨k', a', ks', s⟩ := v
  simp only [Rep] at hr
  obtain ⟨rfl, rfl, -⟩ := hr
  unfold knownNat Lift.knownOf
  split
  · rename_i heq; cases heq; rfl
  · rename_i hne
    split
    · rename_i heq; cases heq; exact absurd rfl (hne _ _ _ _)
    · rfl

theorem repL_two {x y : TV} {vs : List SV} (h : RepL [x, y] vs) : ∃ vx vy, vs = [vx, vy] ∧ Rep x vx ∧ Rep y vy := by
  match vs, h with
  | [vx, vy], h => simp only [RepL] at h; exact ⟨vx, vy, rfl, h.1, h.2.1⟩
  | [], h => simp [RepL] at h
  | [_], h => simp [RepL] at h
  | _ :: _ :: _ :: _, h => simp [RepL] at h

theorem safeNode_of_rep {ρ : Nat → Nat} {t : TV} {v : SV} (hr : Rep t v) (hs : SafeFor ρ v) : SafeNode ρ t := by
  obtain ⟨k', a', ks', s⟩ := v
  simp only [SafeFor] at hs
  have htop := hs.1
  unfold SafeNode
  split
  · simp only [Rep] at hr
    obtain ⟨rfl, rfl, hl⟩ := hr
    obtain ⟨vx, vy, rfl, hx, -⟩ := repL_two hl
    simp only [SafeTop] at htop
    intro w hw
    exact htop w (by rw [← rep_knownNat hx]; exact hw)
  · simp only [Rep] at hr
    obtain ⟨rfl, rfl, hl⟩ := hr
    obtain ⟨vx, vy, rfl, -, hy⟩ := repL_two hl
    simp only [SafeTop] at htop
    rw [rep_fixed ρ _ _ hy htop]
  · trivial

theorem applyRules_mapConsts (ρ : Nat → Nat) (st : RegState) (t : TV) (v : SV) (hr : Rep t v)
    (hs : SafeFor ρ v) :
    (applyRules (st.mapConsts ρ) (t.mapConsts ρ)).judgements = (applyRules st t).judgements
    ∧ (applyRules (st.mapConsts ρ) (t.mapConsts ρ)).next = (applyRules st t).next := by
  rw [applyRules_mapConsts_node ρ st t (safeNode_of_rep hr hs)]
  exact ⟨rfl, rfl⟩

theorem foldl_applyRules_mapConsts (ρ : Nat → Nat) : ∀ (l : List TV) (st : RegState),
    (∀ t ∈ l, SafeNode ρ t) →
    (l.map (TV.mapConsts ρ)).foldl applyRules (st.mapConsts ρ) = (l.foldl applyRules st).mapConsts ρ := by
  intro l
  induction l with
  | nil => intro st _; rfl
  | cons t ts ih =>
    intro st h
    simp only [List.map_cons, List.foldl_cons]
    rw [applyRules_mapConsts_node ρ st t (h t List.mem_cons_self)]
    exact ih _ (fun x hx => h x (List.mem_cons_of_mem _ hx))

theorem inferAll_mapConsts_state (ρ : Nat → Nat) (st : RegState) (hs : ∀ t ∈ st.values, SafeNode ρ t) :
    inferAll (st.mapConsts ρ) = (inferAll st).mapConsts ρ := by
  unfold inferAll
  exact foldl_applyRules_mapConsts ρ st.values st hs

theorem inferAll_mapConsts (ρ : Nat → Nat) (st : RegState)
    (hs : ∀ t ∈ st.values, ∃ v, SafeFor ρ v ∧ Rep t v) :
    (inferAll (st.mapConsts ρ)).judgements = (inferAll st).judgements
    ∧ (inferAll (st.mapConsts ρ)).next = (inferAll st).next := by
  rw [inferAll_mapConsts_state ρ st (fun t ht => by
    obtain ⟨v, hv, hr⟩ := hs t ht
    exact safeNode_of_rep hr hv)]
  exact ⟨rfl, rfl⟩

theorem registerAll_safe (ρ : Nat → Nat) (vs : List SV) (hs : ∀ v ∈ vs, SafeFor ρ v) :
    ∀ t ∈ (registerAll vs).values, SafeNode ρ t := by
  intro t ht
  obtain ⟨inv, -⟩ := registerAll_spec (SafeFor ρ) (safeFor_kid ρ) vs hs
  obtain ⟨v, hv, hr⟩ := inv.vals t ht
  exact safeNode_of_rep hr hv

theorem inferAll_registerAll_mapConsts {ρ : Nat → Nat} (hρ : Function.Injective ρ) (vs : List SV)
    (hs : ∀ v ∈ vs, SafeFor ρ v) :
    inferAll (registerAll (vs.map (mapConsts ρ))) = (inferAll (registerAll vs)).mapConsts ρ := by
  rw [registerAll_mapConsts hρ, inferAll_mapConsts_state ρ _ (registerAll_safe ρ vs hs)]

theorem judgements_independent_of_constants {ρ : Nat → Nat} (hρ : Function.Injective ρ) (vs : List SV)
    (hs : ∀ v ∈ vs, SafeFor ρ v) :
    (inferAll (registerAll (vs.map (mapConsts ρ)))).judgements = (inferAll (registerAll vs)).judgements
    ∧ (inferAll (registerAll (vs.map (mapConsts ρ)))).next = (inferAll (registerAll vs)).next := by
  rw [inferAll_registerAll_mapConsts hρ vs hs]
  exact ⟨rfl, rfl⟩

theorem registerAll_values_mapConsts {ρ : Nat → Nat} (hρ : Function.Injective ρ) (vs : List SV) :
    (registerAll (vs.map (mapConsts ρ))).values = (registerAll vs).values.map (TV.mapConsts ρ) := by
  rw [registerAll_mapConsts hρ]
  rfl

theorem isConstSlot_mapConsts (ρ : Nat → Nat) (t : TV) :
    isConstSlot (t.mapConsts ρ) = (isConstSlot t).map ρ := by
  unfold isConstSlot
  split
  · rename_i heq
    simp only [mapConsts_eq_node, mapConstsList_eq_cons, mapConstsList_eq_nil] at heq
    obtain ⟨a0, ks0, rfl, -, c, cs, rfl, ⟨a1, ks1, rfl, ha, -⟩, rfl⟩ := heq
    cases a1 with
    | nil => simp [mapAttrs, mapHead] at ha
    | cons w0 r0 =>
      simp only [mapAttrs, mapHead, if_true, List.cons.injEq] at ha
      simp [ha.1]
  · rename_i hne
    split
    · exfalso
      rename_i sa w r ks tv tv'
      exact hne (mapAttrs ρ .storageSlot sa) (ρ w) r (TV.mapConstsList ρ ks) tv tv'
        (by simp [TV.mapConsts, TV.mapConstsList, mapAttrs, mapHead])
    · rfl

/-! ### the layout -/

/-- `analyse` after `liftValues` (verbatim tail of the definition) -/
def analyseLifted (o : Unify.Orders) (fuel : Nat) (lifted : List SV) : Analysis :=
    let st0 := registerAll lifted
    let st := inferAll st0
    let infs := infSets st.judgements
    let infOf := fun v => (infs.lookup v).getD []
    match Unify.unify o fuel st.next infOf with
    | .error e => ⟨st0.next, st.next, infs, .unifyFault e⟩
    | .ok (f, _, _) =>
      match layoutEntries (typeOfIn f) 4096 st0.values with
      | .error e => ⟨st0.next, st.next, infs, .renderFault e⟩
      | .ok es => ⟨st0.next, st.next, infs, .layout (Layout.buildLayout es)⟩

theorem analyse_eq_analyseLifted (h : Lift.HashCtx) (o : Unify.Orders) (fuel : Nat) (vs lifted : List SV)
    (hl : liftValues h (uniqueSV vs) = .ok lifted) : analyse h o fuel vs = analyseLifted o fuel lifted := by
  unfold analyse analyseLifted
  rw [hl]
  rfl

theorem analyseLifted_outcome (o : Unify.Orders) (fuel : Nat) (us : List SV) :
    (analyseLifted o fuel us).outcome =
      tailOutcome o fuel (inferAll (registerAll us)).next (inferAll (registerAll us)).judgements
        (registerAll us).values :=
  tailOutcome_eq o fuel _ _

def reindex {α : Type} (ρ : Nat → Nat) (e : Layout.Entry α) : Layout.Entry α := ⟨ρ e.index, e.offset, e.typ⟩

theorem layoutEntries_mapConsts (ρ : Nat → Nat) (typeOf : Nat → Except RErr TE) (fuel : Nat) :
    ∀ (vals : List TV), layoutEntries typeOf fuel (vals.map (TV.mapConsts ρ))
      = (match layoutEntries typeOf fuel vals with
         | .error e => .error e
         | .ok es => .ok (es.map (reindex ρ))) := by
  intro vals
  induction vals with
  | nil => rfl
  | cons v vs ih =>
    simp only [List.map_cons, layoutEntries, isConstSlot_mapConsts, tv_mapConsts]
    cases isConstSlot v with
    | none => exact ih
    | some w =>
      simp only [Option.map_some]
      cases abiTypeFor typeOf fuel v.tv [] false with
      | error e => rfl
      | ok p =>
        obtain ⟨av, sn⟩ := p
        simp only [ih]
        cases layoutEntries typeOf fuel vs with
        | error e => rfl
        | ok r =>
          cases av with
          | type ty => simp [reindex]
          | packed ps => simp [reindex, Function.comp_def]

/-- The conclusion is a permutation, not an equality: `buildLayout` sorts by slot index, and `ρ` need not be
monotone. -/
theorem layout_renumbered {ρ : Nat → Nat} (hρ : Function.Injective ρ) (o : Unify.Orders) (fuel : Nat)
    (lifted : List SV) (hs : ∀ v ∈ lifted, SafeFor ρ v) :
    (∀ l, (analyseLifted o fuel lifted).outcome = .layout l →
      ∃ l', (analyseLifted o fuel (lifted.map (mapConsts ρ))).outcome = .layout l'
        ∧ l'.Perm (l.map (reindex ρ)))
    ∧ (∀ l', (analyseLifted o fuel (lifted.map (mapConsts ρ))).outcome = .layout l' →
      ∃ l, (analyseLifted o fuel lifted).outcome = .layout l ∧ l'.Perm (l.map (reindex ρ))) := by
  unfold analyseLifted
  simp only [registerAll_mapConsts hρ, inferAll_mapConsts_state ρ _ (registerAll_safe ρ lifted hs),
    judgements_mapConsts, next_mapConsts, values_mapConsts, layoutEntries_mapConsts]
  cases Unify.unify o fuel (inferAll (registerAll lifted)).next
      (fun v => ((infSets (inferAll (registerAll lifted)).judgements).lookup v).getD []) with
  | error e => constructor <;> (intro l h; cases h)
  | ok r =>
    obtain ⟨f, x, y⟩ := r
    simp only
    cases layoutEntries (typeOfIn f) 4096 (registerAll lifted).values with
    | error e => constructor <;> (intro l h; cases h)
    | ok es =>
      simp only [Outcome.layout.injEq]
      have hp : (Layout.buildLayout (es.map (reindex ρ))).Perm ((Layout.buildLayout es).map (reindex ρ)) :=
        (Layout.buildLayout_perm _).trans ((Layout.buildLayout_perm es).map (reindex ρ)).symm
      constructor
      · rintro l rfl; exact ⟨_, rfl, hp⟩
      · rintro l' rfl; exact ⟨_, rfl, hp⟩

theorem analyseLifted_mapConsts_rest {ρ : Nat → Nat} (hρ : Function.Injective ρ) (o : Unify.Orders) (fuel : Nat)
    (lifted : List SV) (hs : ∀ v ∈ lifted, SafeFor ρ v) :
    (analyseLifted o fuel (lifted.map (mapConsts ρ))).registered = (analyseLifted o fuel lifted).registered
    ∧ (analyseLifted o fuel (lifted.map (mapConsts ρ))).allocated = (analyseLifted o fuel lifted).allocated
    ∧ (analyseLifted o fuel (lifted.map (mapConsts ρ))).infs = (analyseLifted o fuel lifted).infs
    ∧ (∀ e, (analyseLifted o fuel (lifted.map (mapConsts ρ))).outcome = .unifyFault e
          ↔ (analyseLifted o fuel lifted).outcome = .unifyFault e)
    ∧ (∀ e, (analyseLifted o fuel (lifted.map (mapConsts ρ))).outcome = .renderFault e
          ↔ (analyseLifted o fuel lifted).outcome = .renderFault e) := by
  unfold analyseLifted
  simp only [registerAll_mapConsts hρ, inferAll_mapConsts_state ρ _ (registerAll_safe ρ lifted hs),
    judgements_mapConsts, next_mapConsts, values_mapConsts, layoutEntries_mapConsts]
  cases Unify.unify o fuel (inferAll (registerAll lifted)).next
      (fun v => ((infSets (inferAll (registerAll lifted)).judgements).lookup v).getD []) with
  | error e => simp
  | ok r =>
    obtain ⟨f, x, y⟩ := r
    simp only
    cases layoutEntries (typeOfIn f) 4096 (registerAll lifted).values with
    | error e => simp
    | ok es => simp

/-! ### about `SafeFor` -/

theorem safeTop_of_fixed (ρ : Nat → Nat) (k : Kind) (ks : List SV)
    (h : match k, ks with
      | .signExtend, [size, _] => mapConsts ρ size = size
      | .callData, [_, size] => mapConsts ρ size = size
      | _, _ => True) : SafeTop ρ k ks := by
  unfold SafeTop
  split
  · intro w hw
    simp only at h
    rename_i size _
    unfold Lift.knownOf at hw
    split at hw
    · cases hw
      simp only [mapConsts, mapAttrs, mapHead, if_true, SV.node.injEq, List.cons.injEq, true_and, and_true] at h
      rw [h.1]
    · cases hw
  · exact h
  · trivial

theorem sxWidth_of_fixed {ρ : Nat → Nat} {w : Nat} (h : ρ w = w) : sxWidth (ρ w) = sxWidth w := by rw [h]

/-- `SafeFor` cannot be dropped from `judgements_independent_of_constants`: renaming the literal
size of a `signExtend` changes the width in the judgement. -/
example :
    let v : SV := .node .signExtend [] [.node .knownData [0] [] 1, .node .value [7] [] 1] 3
    let ρ : Nat → Nat := fun n => n + 1
    (inferAll (registerAll ([v].map (mapConsts ρ)))).judgements ≠ (inferAll (registerAll [v])).judgements := by
  decide

/-- a renaming that moves slot 0 ↦ 5 in `sstore(slot 0, value)`: the registered constant slot moves. -/
example :
    let v : SV := .node .storageWrite [] [.node .storageSlot [] [.node .knownData [0] [] 1] 2, .node .value [7] [] 1] 4
    let ρ : Nat → Nat := fun n => n + 5
    ((registerAll ([v].map (mapConsts ρ))).values.filterMap isConstSlot = [5])
    ∧ ((registerAll [v]).values.filterMap isConstSlot = [0]) := by
  decide

#print axioms beq_mapConsts
#print axioms isStable_mapConsts
#print axioms register_mapConsts
#print axioms registerAll_mapConsts
#print axioms applyRules_mapConsts
#print axioms applyRules_mapConsts_node
#print axioms inferAll_mapConsts
#print axioms inferAll_mapConsts_state
#print axioms judgements_independent_of_constants
#print axioms registerAll_values_mapConsts
#print axioms isConstSlot_mapConsts
#print axioms analyse_eq_analyseLifted
#print axioms layout_renumbered
#print axioms analyseLifted_mapConsts_rest

end SLE.Rename
