import SLE.Model.TC
import SLE.Spec.TCSpec
import SLE.Lemmas.Layout
import SLE.Lemmas.Fold
/-
C05 / C06 at the model level: every slot index of the layout comes from a
`storageSlot (knownData w)` node of a lifted value (`slots_from_slot_nodes`), and a top-level
access with a literal key is reported (`literal_key_reported`).
-/
namespace SLE.TCSlots
open SLE SLE.SV SLE.TC SLE.TCSpec SLE.Lift

theorem beqList_eq : ∀ (a b : List SV), SV.beqList a b = true → a = b := SV.beqList_eq

theorem beqList_refl : ∀ (a : List SV), SV.beqList a a = true := SV.beqList_refl


/-! ### registration: every registered node represents a sub-term of the input -/

mutual
/-- `t` is the registration of `v`: same kinds and payloads all the way down. -/
def Rep : TV → SV → Prop
  | .node k a ks _, .node k' a' ks' _ => k = k' ∧ a = a' ∧ RepL ks ks'
def RepL : List TV → List SV → Prop
  | [], [] => True
  | t :: ts, v :: vs => Rep t v ∧ RepL ts vs
  | [], _ :: _ => False
  | _ :: _, [] => False
end

/-- the kid loop of `register` as a plain recursion -/
def regList (fuel : Nat) : RegState → List SV → RegState × List TV
  | st, [] => (st, [])
  | st, c :: cs =>
    let r := register fuel st c
    let r' := regList fuel r.1 cs
    (r'.1, r.2 :: r'.2)

theorem foldl_regList (fuel : Nat) : ∀ (ks : List SV) (st : RegState) (acc : List TV),
    ks.foldl (fun (acc : RegState × List TV) c =>
          let (s, t) := register fuel acc.1 c
          (s, acc.2 ++ [t])) (st, acc)
      = ((regList fuel st ks).1, acc ++ (regList fuel st ks).2) := by
  intro ks
  induction ks with
  | nil => intro st acc; simp [regList]
  | cons c cs ih =>
    intro st acc
    simp only [List.foldl_cons, regList]
    rw [ih]
    simp

theorem register_succ (fuel : Nat) (st : RegState) (k : Kind) (a : List Nat) (ks : List SV) (s : Nat) :
    register (fuel + 1) st (.node k a ks s) =
      match (if isStable (nodeCount (.node k a ks s) + 1) (.node k a ks s)
             then (st.stable.find? (fun p => p.1.beq (.node k a ks s))).map (·.2) else none) with
      | some tvn => (st, tvn)
      | none =>
        let r := regList fuel st ks
        let node := TV.node k a r.2 r.1.next
        ({ r.1 with next := r.1.next + 1, values := r.1.values ++ [node],
                    stable := if isStable (nodeCount (.node k a ks s) + 1) (.node k a ks s)
                      then r.1.stable ++ [(.node k a ks s, node)] else r.1.stable }, node) := by
  rw [register]
  simp only [foldl_regList, List.nil_append]
  generalize (if isStable (nodeCount (.node k a ks s) + 1) (.node k a ks s)
             then (st.stable.find? (fun p => p.1.beq (.node k a ks s))).map (·.2) else none) = o
  cases o <;> rfl

/-- What registration keeps true of the state: every memo entry and every registered tree represents a
value, the values all satisfy `Q` (any property that passes from a node to its kids — the caller
chooses it, e.g. "is a sub-term of an input"), and the kids of a registered tree are registered. -/
structure Inv (Q : SV → Prop) (st : RegState) : Prop where
  memo : ∀ p ∈ st.stable, p.2 ∈ st.values ∧ Rep p.2 p.1
  vals : ∀ t ∈ st.values, ∃ v, Q v ∧ Rep t v
  closed : ∀ t ∈ st.values, ∀ c ∈ t.kids, c ∈ st.values

theorem nodeCount_le_of_mem : ∀ (ks : List SV) (c : SV), c ∈ ks → nodeCount c ≤ nodeCountList ks
  | [], _, h => by simp at h
  | x :: xs, c, h => by
    simp only [nodeCountList]
    rcases List.mem_cons.mp h with h | h
    · subst h; omega
    · have := nodeCount_le_of_mem xs c h; omega


/-- what one call `register fuel st v = r` guarantees: the invariant again, the returned tree represents
`v` and is registered, nothing registered before is lost -/
def Post (Q : SV → Prop) (st : RegState) (v : SV) (r : RegState × TV) : Prop :=
  Inv Q r.1 ∧ Rep r.2 v ∧ r.2 ∈ r.1.values ∧ ∀ t ∈ st.values, t ∈ r.1.values

theorem regList_spec (Q : SV → Prop) (fuel : Nat)
    (ih : ∀ st v, nodeCount v < fuel → Inv Q st → Q v → Post Q st v (register fuel st v)) :
    ∀ (ks : List SV) (st : RegState), (∀ c ∈ ks, nodeCount c < fuel ∧ Q c) → Inv Q st →
      Inv Q (regList fuel st ks).1 ∧ RepL (regList fuel st ks).2 ks ∧
      (∀ t ∈ (regList fuel st ks).2, t ∈ (regList fuel st ks).1.values) ∧
      (∀ t ∈ st.values, t ∈ (regList fuel st ks).1.values) := by
  intro ks
  induction ks with
  | nil =>
    intro st _ hi
    simp only [regList, RepL]
    exact ⟨hi, trivial, by simp, fun t ht => ht⟩
  | cons c cs ihks =>
    intro st hks hi
    have hc := hks c (List.mem_cons_self)
    obtain ⟨i1, rep1, mem1, mono1⟩ := ih st c hc.1 hi hc.2
    obtain ⟨i2, rep2, mem2, mono2⟩ := ihks (register fuel st c).1
      (fun x hx => hks x (List.mem_cons_of_mem _ hx)) i1
    simp only [regList, RepL]
    refine ⟨i2, ⟨rep1, rep2⟩, ?_, fun t ht => mono2 t (mono1 t ht)⟩
    intro t ht
    rcases List.mem_cons.mp ht with h | h
    · subst h; exact mono2 _ mem1
    · exact mem2 t h

theorem register_spec (Q : SV → Prop) (hQ : ∀ k a ks s, Q (.node k a ks s) → ∀ c ∈ ks, Q c) :
    ∀ (fuel : Nat) (st : RegState) (v : SV), nodeCount v < fuel → Inv Q st → Q v →
      Post Q st v (register fuel st v) := by
  intro fuel
  induction fuel with
  | zero => intro st v h; omega
  | succ fuel ih =>
    intro st v hn hi hq
    obtain ⟨k, a, ks, s⟩ := v
    rw [register_succ]
    split
    · rename_i tvn heq
      split at heq
      · simp only [Option.map_eq_some_iff] at heq
        obtain ⟨p, hp, rfl⟩ := heq
        have hmem := List.mem_of_find?_eq_some hp
        have hb := List.find?_some hp
        have := beq_eq _ _ hb
        have hm := hi.memo p hmem
        rw [this] at hm
        exact ⟨hi, hm.2, hm.1, fun t ht => ht⟩
      · cases heq
    · have hks : ∀ c ∈ ks, nodeCount c < fuel ∧ Q c := by
        intro c hc
        have := nodeCount_le_of_mem ks c hc
        simp only [nodeCount] at hn
        exact ⟨by omega, hQ k a ks s hq c hc⟩
      obtain ⟨i1, rep, mem, mono⟩ := regList_spec Q fuel ih ks st hks hi
      have hrep : Rep (TV.node k a (regList fuel st ks).2 (regList fuel st ks).1.next) (.node k a ks s) := by
        simp only [Rep]; exact ⟨trivial, trivial, rep⟩
      refine ⟨⟨?_, ?_, ?_⟩, hrep, ?_, ?_⟩
      · intro p hp
        simp only at hp ⊢
        split at hp
        · rcases List.mem_append.mp hp with h | h
          · have := i1.memo p h
            exact ⟨List.mem_append_left _ this.1, this.2⟩
          · simp only [List.mem_singleton] at h
            subst h
            exact ⟨by simp, hrep⟩
        · have := i1.memo p hp
          exact ⟨List.mem_append_left _ this.1, this.2⟩
      · intro t ht
        simp only at ht
        rcases List.mem_append.mp ht with h | h
        · exact i1.vals t h
        · simp only [List.mem_singleton] at h
          subst h
          exact ⟨_, hq, hrep⟩
      · intro t ht c hc
        simp only at ht ⊢
        rcases List.mem_append.mp ht with h | h
        · exact List.mem_append_left _ (i1.closed t h c hc)
        · simp only [List.mem_singleton] at h
          subst h
          exact List.mem_append_left _ (mem c hc)
      · simp
      · intro t ht
        exact List.mem_append_left _ (mono t ht)


theorem inv_empty (Q : SV → Prop) : Inv Q {} :=
  ⟨(by intro p hp; cases hp), (by intro p hp; cases hp), (by intro p hp; cases hp)⟩

theorem registerAll_fold (Q : SV → Prop) (hQ : ∀ k a ks s, Q (.node k a ks s) → ∀ c ∈ ks, Q c) :
    ∀ (vs : List SV) (st : RegState), (∀ v ∈ vs, Q v) → Inv Q st →
      Inv Q (vs.foldl (fun st v => (register (nodeCount v + 1) st v).1) st) ∧
      (∀ t ∈ st.values, t ∈ (vs.foldl (fun st v => (register (nodeCount v + 1) st v).1) st).values) ∧
      (∀ v ∈ vs, ∃ t ∈ (vs.foldl (fun st v => (register (nodeCount v + 1) st v).1) st).values, Rep t v) := by
  intro vs
  induction vs with
  | nil => intro st _ hi; exact ⟨hi, fun t ht => ht, by simp⟩
  | cons v vs ih =>
    intro st hvs hi
    obtain ⟨i1, rep1, mem1, mono1⟩ :=
      register_spec Q hQ (nodeCount v + 1) st v (by omega) hi (hvs v List.mem_cons_self)
    obtain ⟨i2, mono2, all2⟩ := ih (register (nodeCount v + 1) st v).1
      (fun x hx => hvs x (List.mem_cons_of_mem _ hx)) i1
    simp only [List.foldl_cons]
    refine ⟨i2, fun t ht => mono2 t (mono1 t ht), ?_⟩
    intro x hx
    rcases List.mem_cons.mp hx with h | h
    · subst h; exact ⟨_, mono2 _ mem1, rep1⟩
    · exact all2 x h

theorem registerAll_spec (Q : SV → Prop) (hQ : ∀ k a ks s, Q (.node k a ks s) → ∀ c ∈ ks, Q c)
    (vs : List SV) (hvs : ∀ v ∈ vs, Q v) :
    Inv Q (registerAll vs) ∧ ∀ v ∈ vs, ∃ t ∈ (registerAll vs).values, Rep t v := by
  obtain ⟨i, _, h⟩ := registerAll_fold Q hQ vs {} hvs (inv_empty Q)
  exact ⟨i, h⟩

/-! ### sub-term predicates -/

theorem anyNodeList_of_mem (p : Kind → List Nat → List SV → Bool) :
    ∀ (ks : List SV) (c : SV), c ∈ ks → anyNode p c = true → anyNodeList p ks = true
  | [], _, h, _ => by cases h
  | x :: xs, c, h, hc => by
    simp only [anyNodeList, Bool.or_eq_true]
    rcases List.mem_cons.mp h with h | h
    · subst h; exact Or.inl hc
    · exact Or.inr (anyNodeList_of_mem p xs c h hc)

theorem anyNode_of_kid (p : Kind → List Nat → List SV → Bool) (k : Kind) (a : List Nat) (ks : List SV)
    (s : Nat) (c : SV) (hc : c ∈ ks) (h : anyNode p c = true) : anyNode p (.node k a ks s) = true := by
  simp only [anyNode, Bool.or_eq_true]
  exact Or.inr (anyNodeList_of_mem p ks c hc h)

def Cov (S : List SV) (v : SV) : Prop :=
  ∀ w, hasConstSlot w v = true → ∃ u ∈ S, hasConstSlot w u = true

theorem cov_kid (S : List SV) : ∀ k a ks s, Cov S (.node k a ks s) → ∀ c ∈ ks, Cov S c := by
  intro k a ks s h c hc w hw
  exact h w (anyNode_of_kid _ k a ks s c hc hw)

theorem rep_constSlot {t : TV} {v : SV} {w : Nat} (hr : Rep t v) (hc : isConstSlot t = some w) :
    hasConstSlot w v = true := by
  unfold isConstSlot at hc
  split at hc
  · cases hc
    obtain ⟨k, a, ks, s⟩ := v
    simp only [Rep] at hr
    obtain ⟨rfl, rfl, hl⟩ := hr
    match ks, hl with
    | [c], hl =>
      simp only [RepL] at hl
      obtain ⟨k', a', ks', s'⟩ := c
      simp only [Rep] at hl
      obtain ⟨⟨rfl, rfl, _⟩, _⟩ := hl
      simp [hasConstSlot, anyNode]
    | [], hl => simp [RepL] at hl
    | _ :: _ :: _, hl => simp [RepL] at hl
  · cases hc

theorem constSlot_of_rep {t : TV} {sa : List Nat} {w : Nat} {r : List Nat} {kk : List SV} {s1 ss : Nat}
    (hr : Rep t (.node .storageSlot sa [.node .knownData (w :: r) kk s1] ss)) :
    isConstSlot t = some w := by
  obtain ⟨k, a, ks, tv⟩ := t
  simp only [Rep] at hr
  obtain ⟨rfl, rfl, hl⟩ := hr
  match ks, hl with
  | [c], hl =>
    simp only [RepL] at hl
    obtain ⟨k', a', ks', s'⟩ := c
    simp only [Rep] at hl
    obtain ⟨⟨rfl, rfl, _⟩, _⟩ := hl
    simp [isConstSlot]
  | [], hl => simp [RepL] at hl
  | _ :: _ :: _, hl => simp [RepL] at hl

/-! ### the layout loop -/

theorem layoutEntries_sound (typeOf : Nat → Except RErr TE) (fuel : Nat) :
    ∀ (vals : List TV) (es : List (Layout.Entry JsonModel.AbiType)), layoutEntries typeOf fuel vals = .ok es →
      ∀ e ∈ es, ∃ t ∈ vals, isConstSlot t = some e.index := by
  intro vals
  induction vals with
  | nil => intro es h e he; simp only [layoutEntries] at h; cases h; cases he
  | cons v vs ih =>
    intro es h e he
    simp only [layoutEntries] at h
    split at h
    · obtain ⟨t, ht, hc⟩ := ih es h e he
      exact ⟨t, List.mem_cons_of_mem _ ht, hc⟩
    · rename_i w hw
      split at h
      · cases h
      · rename_i av sn hav
        split at h
        · cases h
        · rename_i r hr
          cases h
          rcases List.mem_append.mp he with h1 | h1
          · refine ⟨v, List.mem_cons_self, ?_⟩
            rw [hw]
            cases av with
            | type t => simp only [List.mem_singleton] at h1; subst h1; rfl
            | packed ps =>
              simp only [List.mem_map] at h1
              obtain ⟨q, _, rfl⟩ := h1
              rfl
          · obtain ⟨t, ht, hc⟩ := ih r hr e h1
            exact ⟨t, List.mem_cons_of_mem _ ht, hc⟩


end SLE.TCSlots

namespace SLE.TC
open SLE SLE.SV SLE.JsonModel

/-- the inference set of a variable, as `analyse` reads it off the judgement list -/
def infsOf (J : List (Nat × TE)) : Nat → List TE := fun v => ((infSets J).lookup v).getD []

/-- everything `analyse` does after registration and the rules: unification, rendering, the layout -/
def tailOutcome (o : Unify.Orders) (fuel n : Nat) (J : List (Nat × TE)) (vals : List TV) : Outcome :=
  match Unify.unify o fuel n (infsOf J) with
  | .error e => .unifyFault e
  | .ok (f, _, _) =>
    match layoutEntries (typeOfIn f) 4096 vals with
    | .error e => .renderFault e
    | .ok es => .layout (Layout.buildLayout es)

theorem tailOutcome_ok {o : Unify.Orders} {fuel n : Nat} {J : List (Nat × TE)} {f : Unify.Forest} {a b : Nat}
    (hu : Unify.unify o fuel n (infsOf J) = .ok (f, a, b)) (vals : List TV) :
    tailOutcome o fuel n J vals =
      match layoutEntries (typeOfIn f) 4096 vals with
      | .error e => .renderFault e
      | .ok es => .layout (Layout.buildLayout es) := by
  simp only [tailOutcome, hu]

theorem tailOutcome_error {o : Unify.Orders} {fuel n : Nat} {J : List (Nat × TE)} {e : Unify.UFault}
    (hu : Unify.unify o fuel n (infsOf J) = .error e) (vals : List TV) :
    tailOutcome o fuel n J vals = .unifyFault e := by
  simp only [tailOutcome, hu]

theorem tailOutcome_eq (o : Unify.Orders) (fuel : Nat) (st0 st : RegState) :
    (match Unify.unify o fuel st.next (fun v => ((infSets st.judgements).lookup v).getD []) with
      | .error e => (⟨st0.next, st.next, infSets st.judgements, .unifyFault e⟩ : Analysis)
      | .ok (f, _, _) =>
        match layoutEntries (typeOfIn f) 4096 st0.values with
        | .error e => ⟨st0.next, st.next, infSets st.judgements, .renderFault e⟩
        | .ok es => ⟨st0.next, st.next, infSets st.judgements, .layout (Layout.buildLayout es)⟩).outcome
      = tailOutcome o fuel st.next st.judgements st0.values := by
  unfold tailOutcome infsOf
  generalize Unify.unify o fuel _ _ = U
  cases U with
  | error e => rfl
  | ok r =>
    obtain ⟨f, a, b⟩ := r
    simp only
    generalize layoutEntries _ _ _ = L
    cases L <;> rfl

theorem analyse_outcome (h : Lift.HashCtx) (o : Unify.Orders) (fuel : Nat) (vs lifted : List SV)
    (hl : liftValues h (uniqueSV vs) = .ok lifted) :
    (analyse h o fuel vs).outcome =
      tailOutcome o fuel (inferAll (registerAll lifted)).next (inferAll (registerAll lifted)).judgements
        (registerAll lifted).values := by
  unfold analyse
  rw [hl]
  exact tailOutcome_eq o fuel _ _

theorem tailOutcome_layout_iff {o : Unify.Orders} {fuel n : Nat} {J : List (Nat × TE)} {vals : List TV}
    {l : List (Layout.Entry AbiType)} :
    tailOutcome o fuel n J vals = .layout l ↔
      ∃ f a b es, Unify.unify o fuel n (infsOf J) = .ok (f, a, b) ∧
        layoutEntries (typeOfIn f) 4096 vals = .ok es ∧ l = Layout.buildLayout es := by
  unfold tailOutcome
  constructor
  · intro h
    split at h
    · cases h
    · rename_i f a b hu
      split at h
      · cases h
      · rename_i es hes
        injection h with h
        exact ⟨f, a, b, es, hu, hes, h.symm⟩
  · rintro ⟨f, a, b, es, hu, hes, rfl⟩
    simp only [hu, hes]

end SLE.TC

namespace SLE.TCSlots
open SLE SLE.SV SLE.TC SLE.TCSpec SLE.Lift

theorem analyse_layout (h : HashCtx) (o : Unify.Orders) (fuel : Nat) (vs : List SV)
    (l : List (Layout.Entry JsonModel.AbiType)) (hl : (analyse h o fuel vs).outcome = .layout l) :
    ∃ lifted f es, liftValues h (uniqueSV vs) = .ok lifted ∧
      layoutEntries (typeOfIn f) 4096 (registerAll lifted).values = .ok es ∧
      l = Layout.buildLayout es := by
  cases hlift : liftValues h (uniqueSV vs) with
  | error e => simp only [analyse, hlift] at hl; cases hl
  | ok lifted =>
    rw [analyse_outcome h o fuel vs lifted hlift] at hl
    obtain ⟨f, _, _, es, -, hes, rfl⟩ := tailOutcome_layout_iff.mp hl
    exact ⟨lifted, f, es, rfl, hes, rfl⟩

/-! ### the lifting passes keep a literal key -/

def IsLit (w : Nat) (key : SV) : Prop := ∃ r kk s, key = .node .knownData (w :: r) kk s

def LitAcc (w : Nat) (v : SV) : Prop :=
  ∃ k a key val s, (k = Kind.sLoad ∨ k = Kind.storageWrite) ∧ IsLit w key ∧ v = .node k a [key, val] s

def SlotAcc (w : Nat) (v : SV) : Prop :=
  ∃ k a sa key val s ss, (k = Kind.sLoad ∨ k = Kind.storageWrite) ∧ IsLit w key ∧
    v = .node k a [.node .storageSlot sa [key] ss, val] s

theorem litAcc_of_literalAccess {w : Nat} {v : SV} (h : literalAccess w v = true) : LitAcc w v := by
  unfold literalAccess at h
  split at h
  · simp only [beq_iff_eq] at h; subst h
    exact ⟨_, _, _, _, _, Or.inl rfl, ⟨_, _, _, rfl⟩, rfl⟩
  · simp only [beq_iff_eq] at h; subst h
    exact ⟨_, _, _, _, _, Or.inr rfl, ⟨_, _, _, rfl⟩, rfl⟩
  · cases h

theorem lit_slotHashes (h : HashCtx) {w : Nat} (hn : h.table w = none) {key : SV} (hk : IsLit w key) :
    IsLit w (transform (slotHashesT h) key) := by
  obtain ⟨r, kk, s, rfl⟩ := hk
  simp only [transform, slotHashesT, hn, rebuild]
  exact ⟨_, _, _, rfl⟩

theorem lit_proxySlots (h : HashCtx) {w : Nat} (fuel : Nat) {key : SV} (hk : IsLit w key) :
    IsLit w (proxySlots h fuel key) := by
  obtain ⟨r, kk, s, rfl⟩ := hk
  cases fuel with
  | zero => simp only [proxySlots]; exact ⟨_, _, _, rfl⟩
  | succ n => simp only [proxySlots, rebuild]; exact ⟨_, _, _, rfl⟩

theorem lit_insertMappingAccesses {w : Nat} (fuel : Nat) {key : SV} (hk : IsLit w key) :
    IsLit w (insertMappingAccesses fuel key) := by
  obtain ⟨r, kk, s, rfl⟩ := hk
  cases fuel with
  | zero => simp only [insertMappingAccesses]; exact ⟨_, _, _, rfl⟩
  | succ n => simp only [insertMappingAccesses, rebuild]; exact ⟨_, _, _, rfl⟩

theorem lit_insertSubWords {w : Nat} (fuel : Nat) {key key' : SV} (hk : IsLit w key)
    (he : insertSubWords fuel key = .ok key') : IsLit w key' := by
  obtain ⟨r, kk, s, rfl⟩ := hk
  cases fuel with
  | zero => simp only [insertSubWords] at he; cases he; exact ⟨_, _, _, rfl⟩
  | succ n =>
    simp only [insertSubWords, rebuild] at he
    split at he
    · cases he; exact ⟨_, _, _, rfl⟩
    · cases he

theorem lit_insertMulShifts {w : Nat} (fuel : Nat) {key : SV} (hk : IsLit w key) :
    IsLit w (insertMulShifts fuel key) := by
  obtain ⟨r, kk, s, rfl⟩ := hk
  cases fuel with
  | zero => simp only [insertMulShifts]; exact ⟨_, _, _, rfl⟩
  | succ n => simp only [insertMulShifts, rebuild]; exact ⟨_, _, _, rfl⟩

theorem lit_liftPacked {w : Nat} (fuel : Nat) {key key' : SV} (hk : IsLit w key)
    (he : liftPacked fuel key = .ok key') : IsLit w key' := by
  obtain ⟨r, kk, s, rfl⟩ := hk
  cases fuel with
  | zero => simp only [liftPacked] at he; cases he; exact ⟨_, _, _, rfl⟩
  | succ n =>
    simp only [liftPacked, rebuild] at he
    split at he
    · cases he; exact ⟨_, _, _, rfl⟩
    · cases he

theorem lit_liftDynArray {w : Nat} (fuel : Nat) {key : SV} (hk : IsLit w key) :
    IsLit w (liftDynArray fuel key) := by
  obtain ⟨r, kk, s, rfl⟩ := hk
  cases fuel with
  | zero => simp only [liftDynArray]; exact ⟨_, _, _, rfl⟩
  | succ n => simp only [liftDynArray, rebuild]; exact ⟨_, _, _, rfl⟩

theorem lit_insertStorageSlots {w : Nat} (fuel : Nat) {key : SV} (hk : IsLit w key) :
    IsLit w (insertStorageSlots fuel key) := by
  obtain ⟨r, kk, s, rfl⟩ := hk
  cases fuel with
  | zero => simp only [insertStorageSlots]; exact ⟨_, _, _, rfl⟩
  | succ n => simp only [insertStorageSlots, rebuild]; exact ⟨_, _, _, rfl⟩

theorem lit_insertMappingOffset {w : Nat} (fuel : Nat) {key : SV} (hk : IsLit w key) :
    IsLit w (insertMappingOffset fuel key) := by
  obtain ⟨r, kk, s, rfl⟩ := hk
  cases fuel with
  | zero => simp only [insertMappingOffset]; exact ⟨_, _, _, rfl⟩
  | succ n => simp only [insertMappingOffset, rebuild]; exact ⟨_, _, _, rfl⟩


theorem acc_slotHashes (h : HashCtx) {w : Nat} (hn : h.table w = none) {v : SV} (hv : LitAcc w v) :
    LitAcc w (transform (slotHashesT h) v) := by
  obtain ⟨k, a, key, val, s, hk, hlit, rfl⟩ := hv
  have := lit_slotHashes h hn hlit
  rcases hk with rfl | rfl
  · simp only [transform, slotHashesT, transformList, rebuild]
    exact ⟨_, _, _, _, _, Or.inl rfl, this, rfl⟩
  · simp only [transform, slotHashesT, transformList, rebuild]
    exact ⟨_, _, _, _, _, Or.inr rfl, this, rfl⟩

theorem unpick_lit (h : HashCtx) {w : Nat} {key : SV} (hk : IsLit w key) : unpickProxySlots h key = none := by
  obtain ⟨r, kk, s, rfl⟩ := hk
  simp [unpickProxySlots, unpickSha3Data]

theorem acc_proxySlots (h : HashCtx) {w : Nat} (fuel : Nat) {v : SV} (hv : LitAcc w v) :
    LitAcc w (proxySlots h (fuel + 1) v) := by
  obtain ⟨k, a, key, val, s, hk, hlit, rfl⟩ := hv
  have := lit_proxySlots h fuel hlit
  have hu := unpick_lit h hlit
  rcases hk with rfl | rfl
  · simp only [proxySlots, hu, rebuild]
    exact ⟨_, _, _, _, _, Or.inl rfl, this, rfl⟩
  · simp only [proxySlots, hu, rebuild]
    exact ⟨_, _, _, _, _, Or.inr rfl, this, rfl⟩

theorem acc_guarded {w : Nat} (inner : SV → SV) (hin : ∀ key, IsLit w key → IsLit w (inner key))
    (fuel : Nat) {v : SV} (hv : LitAcc w v) : LitAcc w (guarded inner (fuel + 1) v) := by
  obtain ⟨k, a, key, val, s, hk, hlit, rfl⟩ := hv
  have := hin key hlit
  rcases hk with rfl | rfl
  · simp only [guarded, guardStorage, rebuild]
    exact ⟨_, _, _, _, _, Or.inl rfl, this, rfl⟩
  · simp only [guarded, guardStorage, rebuild]
    exact ⟨_, _, _, _, _, Or.inr rfl, this, rfl⟩

theorem generic_acc {w : Nat} (f : SV → Except LFault SV) (hf : ∀ key key', IsLit w key → f key = .ok key' → IsLit w key')
    {k : Kind} (hk : k = Kind.sLoad ∨ k = Kind.storageWrite) {a : List Nat} {key val v' : SV} (hlit : IsLit w key)
    (he : (match mapE f [key, val] with
          | .ok ks' => Except.ok (rebuild k a ks')
          | .error e => Except.error e) = Except.ok v') : LitAcc w v' := by
  simp only [mapE] at he
  cases hkey : f key with
  | error e => simp [hkey] at he
  | ok key' =>
    cases hval : f val with
    | error e => simp [hkey, hval] at he
    | ok val' =>
      simp only [hkey, hval, rebuild, Except.ok.injEq] at he
      subst he
      exact ⟨_, _, _, _, _, hk, hf key key' hlit hkey, rfl⟩

theorem acc_insertSubWords {w : Nat} (fuel : Nat) {v v' : SV} (hv : LitAcc w v)
    (he : insertSubWords (fuel + 1) v = .ok v') : LitAcc w v' := by
  obtain ⟨k, a, key, val, s, hk, hlit, rfl⟩ := hv
  have hf : ∀ key key', IsLit w key → insertSubWords fuel key = .ok key' → IsLit w key' :=
    fun _ _ h1 h2 => lit_insertSubWords fuel h1 h2
  rcases hk with rfl | rfl
  · simp only [insertSubWords] at he
    exact generic_acc _ hf (Or.inl rfl) hlit he
  · simp only [insertSubWords] at he
    exact generic_acc _ hf (Or.inr rfl) hlit he

theorem acc_insertMulShifts {w : Nat} (fuel : Nat) {v : SV} (hv : LitAcc w v) :
    LitAcc w (insertMulShifts (fuel + 1) v) := by
  obtain ⟨k, a, key, val, s, hk, hlit, rfl⟩ := hv
  have := lit_insertMulShifts fuel hlit
  rcases hk with rfl | rfl
  · simp only [insertMulShifts, rebuild, List.map]
    exact ⟨_, _, _, _, _, Or.inl rfl, this, rfl⟩
  · simp only [insertMulShifts, rebuild, List.map]
    exact ⟨_, _, _, _, _, Or.inr rfl, this, rfl⟩

theorem acc_liftPacked {w : Nat} (fuel : Nat) {v v' : SV} (hv : LitAcc w v)
    (he : liftPacked (fuel + 1) v = .ok v') : LitAcc w v' := by
  obtain ⟨k, a, key, val, s, hk, hlit, rfl⟩ := hv
  have hf : ∀ key key', IsLit w key → liftPacked fuel key = .ok key' → IsLit w key' :=
    fun _ _ h1 h2 => lit_liftPacked fuel h1 h2
  rcases hk with rfl | rfl
  · simp only [liftPacked] at he
    exact generic_acc _ hf (Or.inl rfl) hlit he
  · simp only [liftPacked] at he
    split at he
    · exact generic_acc _ hf (Or.inr rfl) hlit he
    · split at he
      · cases he
      · split at he
        · cases he
        · split at he
          · simp only [rebuild, Except.ok.injEq] at he
            subst he
            exact ⟨_, _, _, _, _, Or.inr rfl, hlit, rfl⟩
          · exact generic_acc _ hf (Or.inr rfl) hlit he

theorem slot_insertStorageSlots {w : Nat} (fuel : Nat) {v : SV} (hv : LitAcc w v) :
    SlotAcc w (insertStorageSlots (fuel + 1) v) := by
  obtain ⟨k, a, key, val, s, hk, hlit, rfl⟩ := hv
  have := lit_insertStorageSlots fuel hlit
  obtain ⟨r, kk, s1, rfl⟩ := hlit
  rcases hk with rfl | rfl
  · simp only [insertStorageSlots, rebuild, SV.kind]
    exact ⟨_, _, _, _, _, _, _, Or.inl rfl, this, rfl⟩
  · simp only [insertStorageSlots, rebuild, SV.kind]
    exact ⟨_, _, _, _, _, _, _, Or.inr rfl, this, rfl⟩

theorem slot_insertMappingOffset {w : Nat} (fuel : Nat) {v : SV} (hv : SlotAcc w v) :
    SlotAcc w (insertMappingOffset (fuel + 1) v) := by
  obtain ⟨k, a, sa, key, val, s, ss, hk, hlit, rfl⟩ := hv
  have hslot : ∃ sa' key' ss', IsLit w key' ∧
      insertMappingOffset fuel (.node .storageSlot sa [key] ss) = .node .storageSlot sa' [key'] ss' := by
    cases fuel with
    | zero => exact ⟨sa, key, ss, hlit, by simp only [insertMappingOffset]⟩
    | succ n =>
      exact ⟨sa, insertMappingOffset n key, _, lit_insertMappingOffset n hlit, by simp only [insertMappingOffset, rebuild, List.map]; rfl⟩
  obtain ⟨sa', key', ss', hl', heq⟩ := hslot
  rcases hk with rfl | rfl
  · simp only [insertMappingOffset, rebuild, List.map, heq]
    exact ⟨_, _, _, _, _, _, _, Or.inl rfl, hl', rfl⟩
  · simp only [insertMappingOffset, rebuild, List.map, heq]
    exact ⟨_, _, _, _, _, _, _, Or.inr rfl, hl', rfl⟩

theorem liftAll_slotAcc (h : HashCtx) {w : Nat} (hn : h.table w = none) {v v' : SV} (hv : LitAcc w v)
    (he : liftAll h v = .ok v') : SlotAcc w v' := by
  unfold liftAll at he
  simp only at he
  split at he
  · cases he
  · rename_i v4 h4
    split at he
    · cases he
    · rename_i v6 h6
      simp only [Except.ok.injEq] at he
      subst he
      exact slot_insertMappingOffset _ (slot_insertStorageSlots _
        (acc_guarded _ (fun key hk => lit_liftDynArray _ hk) _
          (acc_liftPacked _ (acc_insertMulShifts _
            (acc_insertSubWords _
              (acc_guarded _ (fun key hk => lit_insertMappingAccesses _ hk) _
                (acc_proxySlots h _ (acc_slotHashes h hn hv))) h4)) h6)))


/-! ### rendering at top level never yields an empty packed list -/

theorem abiTypeFor_packed_ne_nil (typeOf : Nat → Except RErr TE) :
    ∀ (fuel v : Nat) (seen : List TE) (ps : List (JsonModel.AbiType × Nat)) (seen' : List TE),
      abiTypeFor typeOf fuel v seen false = .ok (.packed ps, seen') → ps ≠ [] := by
  intro fuel
  cases fuel with
  | zero => intro v seen ps seen' h; simp [abiTypeFor] at h
  | succ n =>
    intro v seen ps seen' h
    rw [abiTypeFor] at h
    cases hte : typeOf v with
    | error e => simp [hte] at h
    | ok te =>
      simp only [hte] at h
      cases te with
      | packed types isStruct =>
        simp only [Bool.and_true, Bool.false_eq_true, if_false] at h
        split at h
        · cases h
        · split at h
          · cases h
          · split at h
            · cases h
            · split at h
              · cases h
              · simp only [Except.ok.injEq, Prod.mk.injEq, AbiVal.packed.injEq] at h
                rw [← h.1]; simp
            · split at h
              · cases h
              · simp only [Except.ok.injEq, Prod.mk.injEq, AbiVal.packed.injEq] at h
                rw [← h.1]
                rename_i hne _ _
                intro hp
                exact hne hp
      | _ =>
        simp only [Bool.and_true, Bool.and_false, Bool.false_eq_true, if_false] at h
        repeat' (split at h)
        all_goals (first | cases h | skip)

theorem layoutEntries_complete (typeOf : Nat → Except RErr TE) (fuel : Nat) :
    ∀ (vals : List TV) (es : List (Layout.Entry JsonModel.AbiType)), layoutEntries typeOf fuel vals = .ok es →
      ∀ t ∈ vals, ∀ w, isConstSlot t = some w → ∃ e ∈ es, e.index = w := by
  intro vals
  induction vals with
  | nil => intro es _ t ht; cases ht
  | cons v vs ih =>
    intro es h t ht w hw
    simp only [layoutEntries] at h
    rcases List.mem_cons.mp ht with rfl | ht'
    · simp only [hw] at h
      split at h
      · cases h
      · rename_i av sn hav
        split at h
        · cases h
        · rename_i r hr
          simp only [Except.ok.injEq] at h
          subst h
          cases av with
          | type ty => exact ⟨⟨w, 0, ty⟩, by simp, rfl⟩
          | packed ps =>
            have hne := abiTypeFor_packed_ne_nil typeOf fuel _ _ ps sn hav
            cases ps with
            | nil => exact absurd rfl hne
            | cons q qs => exact ⟨⟨w, q.2, q.1⟩, by simp, rfl⟩
    · split at h
      · exact ih es h t ht' w hw
      · split at h
        · cases h
        · split at h
          · cases h
          · rename_i r hr
            simp only [Except.ok.injEq] at h
            subst h
            obtain ⟨e, he, hi⟩ := ih r hr t ht' w hw
            exact ⟨e, List.mem_append_right _ he, hi⟩

/-! ### `uniqueSV`, `liftValues` -/

theorem mem_uniqueSV_fold (v : SV) : ∀ (vs acc : List SV), (v ∈ acc ∨ v ∈ vs) →
    v ∈ vs.foldl (fun acc v => if acc.any (fun x => x.beq v) then acc else acc ++ [v]) acc := by
  intro vs
  induction vs with
  | nil => intro acc h; rcases h with h | h; exact h; cases h
  | cons u us ih =>
    intro acc h
    simp only [List.foldl_cons]
    apply ih
    rcases h with h | h
    · left; split
      · exact h
      · exact List.mem_append_left _ h
    · rcases List.mem_cons.mp h with rfl | h
      · left; split
        · rename_i hany
          simp only [List.any_eq_true] at hany
          obtain ⟨x, hx, hb⟩ := hany
          rw [← beq_eq _ _ hb]; exact hx
        · simp
      · right; exact h

theorem mem_uniqueSV {v : SV} {vs : List SV} (h : v ∈ vs) : v ∈ uniqueSV vs :=
  mem_uniqueSV_fold v vs [] (Or.inr h)

theorem liftValues_mem (h : HashCtx) : ∀ (vs lifted : List SV), liftValues h vs = .ok lifted →
    ∀ v ∈ vs, ∃ v', liftAll h v = .ok v' ∧ v' ∈ lifted := by
  intro vs
  induction vs with
  | nil => intro _ _ v hv; cases hv
  | cons u us ih =>
    intro lifted hl v hv
    simp only [liftValues] at hl
    split at hl
    · cases hl
    · rename_i u' hu
      split at hl
      · cases hl
      · rename_i r hr
        simp only [Except.ok.injEq] at hl
        subst hl
        rcases List.mem_cons.mp hv with rfl | hv
        · exact ⟨u', hu, List.mem_cons_self⟩
        · obtain ⟨v', h1, h2⟩ := ih r hr v hv
          exact ⟨v', h1, List.mem_cons_of_mem _ h2⟩

theorem slots_from_slot_nodes (h : HashCtx) (o : Unify.Orders) (fuel : Nat) (vs : List SV) (l) :
    (analyse h o fuel vs).outcome = .layout l →
    ∀ e ∈ l, ∃ lifted, liftValues h (uniqueSV vs) = .ok lifted ∧ ∃ v ∈ lifted, hasConstSlot e.index v = true := by
  intro hl e he
  obtain ⟨lifted, f, es, hlift, hes, rfl⟩ := analyse_layout h o fuel vs l hl
  refine ⟨lifted, hlift, ?_⟩
  have he' : e ∈ es := Layout.mem_buildLayout.mp he
  obtain ⟨t, ht, hc⟩ := layoutEntries_sound _ _ _ _ hes e he'
  obtain ⟨inv, _⟩ := registerAll_spec (Cov lifted) (cov_kid lifted) lifted
    (fun v hv _ hw => ⟨v, hv, hw⟩)
  obtain ⟨v, hq, hr⟩ := inv.vals t ht
  exact hq _ (rep_constSlot hr hc)


-- the hypothesis `Raw v` is not used by the proof
set_option linter.unusedVariables false in
theorem literal_key_reported (h : HashCtx) (o : Unify.Orders) (fuel : Nat) (vs : List SV) (l) (w : Nat) (v : SV)
    (hv : v ∈ vs) (hraw : Raw v) (hlit : literalAccess w v = true) (hnot : h.table w = none) :
    (analyse h o fuel vs).outcome = .layout l → ∃ e ∈ l, e.index = w := by
  intro hl
  obtain ⟨lifted, f, es, hlift, hes, rfl⟩ := analyse_layout h o fuel vs l hl
  obtain ⟨v', hv', hmem⟩ := liftValues_mem h _ _ hlift v (mem_uniqueSV hv)
  obtain ⟨k, a, sa, key, val, s, ss, _, ⟨r, kk, s1, rfl⟩, rfl⟩ :=
    liftAll_slotAcc h hnot (litAcc_of_literalAccess hlit) hv'
  obtain ⟨inv, hall⟩ := registerAll_spec (fun _ => True) (fun _ _ _ _ _ _ _ => trivial) lifted
    (fun _ _ => trivial)
  obtain ⟨t, ht, hrep⟩ := hall _ hmem
  obtain ⟨tk, ta, tks, ttv⟩ := t
  simp only [Rep] at hrep
  obtain ⟨_, _, hl2⟩ := hrep
  match tks, hl2, ht with
  | [], hl2, _ => simp [RepL] at hl2
  | t1 :: trest, hl2, ht =>
    simp only [RepL] at hl2
    have h1 : t1 ∈ (registerAll lifted).values := inv.closed _ ht t1 (by simp [TV.kids])
    have hc := constSlot_of_rep hl2.1
    obtain ⟨e, he, hi⟩ := layoutEntries_complete _ _ _ _ hes t1 h1 w hc
    exact ⟨e, Layout.mem_buildLayout.mpr he, hi⟩

end SLE.TCSlots
