import SLE.Model.Unify
import SLE.Lemmas.DS
import SLE.Lemmas.Merge
/-!
C14 — the unification loop: `merge` never meets an `Equal`, rounds never panic, the loop's
post-condition (one piece of evidence per class, no unresolved equality), equalities are honoured
and never undone.
-/
namespace SLE.Unify
open SLE SLE.Containers SLE.Merge
set_option linter.unusedVariables false
set_option linter.unusedSimpArgs false

/-! ## Generic `foldlM` lemmas in `Except` -/

/-- Total correctness of a fold: every step returns normally, preserves `I`, is `R`-related to
its input and establishes `Q x`; `Q x` is stable under `R`. -/
theorem foldlM_spec {α σ ε : Type} (step : σ → α → Except ε σ) (I : σ → Prop)
    (R : σ → σ → Prop) (Q : α → σ → Prop)
    (hrefl : ∀ s, R s s) (htrans : ∀ a b c, R a b → R b c → R a c)
    (hQ : ∀ x s s', Q x s → R s s' → Q x s') (l : List α)
    (hstep : ∀ s x, x ∈ l → I s → ∃ s', step s x = .ok s' ∧ I s' ∧ R s s' ∧ Q x s') :
    ∀ s, I s → ∃ s', l.foldlM step s = .ok s' ∧ I s' ∧ R s s' ∧ ∀ x ∈ l, Q x s' := by
  induction l with
  | nil => intro s hs; exact ⟨s, rfl, hs, hrefl s, fun x hx => by cases hx⟩
  | cons a l ih =>
    intro s hs
    obtain ⟨s1, e1, i1, r1, q1⟩ := hstep s a (List.mem_cons_self ..) hs
    obtain ⟨s2, e2, i2, r2, q2⟩ :=
      ih (fun s x hx => hstep s x (List.mem_cons_of_mem _ hx)) s1 i1
    refine ⟨s2, ?_, i2, htrans _ _ _ r1 r2, ?_⟩
    · rw [List.foldlM_cons, e1]; exact e2
    · intro x hx
      rcases List.mem_cons.mp hx with rfl | hx
      · exact hQ _ _ _ q1 r2
      · exact q2 x hx

/-- Partial correctness of a fold: whenever a step returns normally it preserves `I`, is
`R`-related to its input and establishes `Q x`. -/
theorem foldlM_rel {α σ ε : Type} (step : σ → α → Except ε σ) (I : σ → Prop)
    (R : σ → σ → Prop) (Q : α → σ → Prop)
    (hrefl : ∀ s, R s s) (htrans : ∀ a b c, R a b → R b c → R a c)
    (hQ : ∀ x s s', Q x s → R s s' → Q x s') (l : List α)
    (hstep : ∀ s x s', x ∈ l → I s → step s x = .ok s' → I s' ∧ R s s' ∧ Q x s') :
    ∀ s s', I s → l.foldlM step s = .ok s' → I s' ∧ R s s' ∧ ∀ x ∈ l, Q x s' := by
  induction l with
  | nil =>
    intro s s' hs h
    injection h with h; subst h
    exact ⟨hs, hrefl s, fun x hx => by cases hx⟩
  | cons a l ih =>
    intro s s' hs h
    rw [List.foldlM_cons] at h
    cases e1 : step s a with
    | error e => rw [e1] at h; cases h
    | ok s1 =>
      rw [e1] at h
      obtain ⟨i1, r1, q1⟩ := hstep s a s1 (List.mem_cons_self ..) hs e1
      obtain ⟨i2, r2, q2⟩ :=
        ih (fun s x s' hx => hstep s x s' (List.mem_cons_of_mem _ hx)) s1 s' i1 h
      refine ⟨i2, htrans _ _ _ r1 r2, ?_⟩
      intro x hx
      rcases List.mem_cons.mp hx with rfl | hx
      · exact hQ _ _ _ q1 r2
      · exact q2 x hx

theorem foldl_inv {α σ : Type} (step : σ → α → σ) (I : σ → Prop) (l : List α)
    (hstep : ∀ s x, x ∈ l → I s → I (step s x)) : ∀ s, I s → I (l.foldl step s) := by
  induction l with
  | nil => intro s hs; exact hs
  | cons a l ih =>
    intro s hs
    rw [List.foldl_cons]
    exact ih (fun s x hx => hstep s x (List.mem_cons_of_mem _ hx)) _
      (hstep s a (List.mem_cons_self ..) hs)

/-! ## `merge` on `Equal`-free input -/

/-- true unless the expression is `.equal _` -/
def NoEq : TE → Bool
  | .equal _ => false
  | _ => true

/-- The result of a merge carries no `Equal`: neither the expression nor any judgement. -/
def GoodOut (m : MergeOut) : Prop :=
  NoEq m.expr = true ∧ ∀ j ∈ m.judgements, NoEq j.2 = true

theorem out_good (e : TE) (n : Nat) (h : NoEq e = true) : ∃ m, out e n = .ok m ∧ GoodOut m :=
  ⟨_, rfl, h, by simp⟩

theorem packedWord_good (ts : List Span) (s : Bool) (w : Option Nat) (u : WordUse) (p n : Nat) :
    ∃ m, packedWord (.packed ts s) ts w u p n = .ok m ∧ GoodOut m := by
  unfold packedWord
  simp only []
  repeat' split
  all_goals first
    | exact out_good _ _ rfl
    | exact ⟨_, rfl, rfl, by simp [NoEq]⟩

theorem processSpans_good (spans : List (Nat × Nat × Nat)) (input : List Span) :
    ∀ j ∈ (processSpans spans input).2, NoEq j.2 = true := by
  unfold processSpans
  refine foldl_inv _ (fun (acc : List (Nat × Nat) × List (Nat × TE)) => ∀ j ∈ acc.2, NoEq j.2 = true)
    _ (fun acc s _ h => ?_) _ (fun _ hj => (List.not_mem_nil hj).elim)
  simp only []
  split
  · exact h
  · intro j hj
    rcases List.mem_append.mp hj with hj | hj
    · exact h j hj
    · rw [List.mem_singleton.mp hj]; rfl

theorem packedPacked_good (tl : List Span) (sl : Bool) (tr : List Span) (sr : Bool) (n : Nat) :
    ∃ m, packedPacked tl sl tr sr n = .ok m ∧ GoodOut m := by
  unfold packedPacked
  simp only []
  split
  · exact out_good _ _ rfl
  · split
    · exact out_good _ _ rfl
    · refine ⟨_, rfl, rfl, ?_⟩
      intro j hj
      rcases List.mem_append.mp hj with hj | hj
      · exact processSpans_good _ _ j hj
      · exact processSpans_good _ _ j hj

/-- On `Equal`-free input the full `merge` (packed arms included) returns normally and its
output is `Equal`-free. -/
theorem merge_good (l r : TE) (p n : Nat) (hl : NoEq l = true) (hr : NoEq r = true) :
    ∃ m, merge l r p n = .ok m ∧ GoodOut m := by
  unfold merge
  by_cases h : l = r
  · rw [if_pos h]; exact out_good _ _ hl
  · rw [if_neg h]
    cases l <;> simp [NoEq] at hl <;> cases r <;> simp [NoEq] at hr
    all_goals simp only []
    all_goals first
      | exact out_good _ _ rfl
      | exact packedWord_good _ _ _ _ _ _
      | exact packedPacked_good _ _ _ _ _
      | (split <;> exact out_good _ _ rfl)
      | exact ⟨_, rfl, rfl, by simp⟩
      | (repeat' split
         all_goals first
           | exact out_good _ _ rfl
           | exact ⟨_, rfl, rfl, by simp⟩)

/-! ## Inference sets and `dedup` -/

/-- Appending an element unless it is there already: the step of `setUnion` and of `dedup`. -/
theorem mem_insertNew {α : Type} [BEq α] [LawfulBEq α] (s : List α) (e x : α) :
    x ∈ (if s.contains e then s else s ++ [e]) ↔ x ∈ s ∨ x = e := by
  split
  · rename_i h
    have : e ∈ s := by simpa using h
    exact ⟨.inl, fun h => h.elim id (fun h => h ▸ this)⟩
  · simp

theorem mem_dedup_step {α : Type} [BEq α] [LawfulBEq α] (l : List α) :
    ∀ acc : List α, ∀ x, x ∈ l.foldl (fun acc x => if acc.contains x then acc else acc ++ [x]) acc ↔
      x ∈ acc ∨ x ∈ l := by
  induction l with
  | nil => simp
  | cons a l ih =>
    intro acc x
    rw [List.foldl_cons, ih, mem_insertNew, List.mem_cons, or_assoc]

theorem mem_setInsert (s : List TE) (e x : TE) : x ∈ setInsert s e ↔ x ∈ s ∨ x = e :=
  mem_insertNew s e x

theorem mem_setUnion (a b : List TE) (x : TE) : x ∈ setUnion a b ↔ x ∈ a ∨ x ∈ b :=
  mem_dedup_step b a x

theorem mem_dedup {α : Type} [BEq α] [LawfulBEq α] (l : List α) (x : α) : x ∈ dedup l ↔ x ∈ l := by
  unfold dedup
  rw [mem_dedup_step]; simp

theorem dedup_nil {α : Type} [BEq α] : dedup ([] : List α) = [] := rfl

/-! ## Order functions -/

/-- The only assumption on the iteration orders: each is a permutation of its input. -/
def OrdersOk (o : Orders) : Prop :=
  (∀ l, (o.vars l).Perm l) ∧ (∀ l, (o.tes l).Perm l) ∧ (∀ l, (o.eqs l).Perm l) ∧
    (∀ l, (o.judgements l).Perm l)

/-! ## The forest invariant -/

/-- No stored inference set contains an `Equal` (C14: no unresolved equality). -/
def DataNoEq (f : Forest) : Prop := ∀ k d, f.data.get k = some d → ∀ e ∈ d, NoEq e = true

/-- Data is stored only at present roots. -/
def DataAtRoots (f : Forest) : Prop :=
  ∀ k d, f.data.get k = some d → f.mem k = true ∧ DS.rootOf f k = k

/-- The invariant of the unification loop. -/
def UInv (f : Forest) : Prop := DS.Inv f ∧ DataNoEq f ∧ DataAtRoots f

/-- Classes only ever merge. -/
def RootsMono (f f' : Forest) : Prop :=
  ∀ a b, DS.rootOf f a = DS.rootOf f b → DS.rootOf f' a = DS.rootOf f' b

theorem RootsMono.refl (f : Forest) : RootsMono f f := fun _ _ h => h
theorem RootsMono.trans {a b c : Forest} (h1 : RootsMono a b) (h2 : RootsMono b c) :
    RootsMono a c := fun x y h => h2 x y (h1 x y h)
theorem RootsMono.of_eq {f f' : Forest} (h : ∀ w, DS.rootOf f' w = DS.rootOf f w) :
    RootsMono f f' := fun a b hab => by rw [h a, h b]; exact hab

theorem mem_rootOf {f : Forest} (h : DS.Inv f) {v : Nat} (hv : f.mem v = true) :
    f.mem (DS.rootOf f v) = true := by
  obtain ⟨_, _, rank, hc⟩ := h
  have := (rootOfMap_rel hc v).end_root_of_present hc hv
  simp [DS.mem, DS.rootOf, this]

/-- The root of a touched element is present afterwards. -/
theorem mem_root_touch {f f' : Forest} (h : DS.Inv f) (v : Nat)
    (hm : ∀ w, f.mem w = true → f'.mem w = true) (hv : f'.mem v = true) :
    f'.mem (DS.rootOf f v) = true := by
  cases hfv : f.mem v with
  | true => exact hm _ (mem_rootOf h hfv)
  | false =>
    have : f.reps.get v = none := by
      simp only [DS.mem] at hfv
      cases h' : f.reps.get v with
      | none => rfl
      | some _ => rw [h'] at hfv; cases hfv
    rw [DS.rootOf_absent h this]; exact hv

/-- An element of the data of a class comes from a stored inference set. -/
theorem mem_dataAt {f : Forest} {k : Nat} {x : TE} (hx : x ∈ DS.dataAt setM f k) :
    ∃ d, f.data.get k = some d ∧ x ∈ d := by
  unfold DS.dataAt at hx
  cases hg : f.data.get k with
  | none => rw [hg] at hx; cases hx
  | some d => rw [hg] at hx; exact ⟨d, rfl, hx⟩

/-- A property of all stored pieces holds of the data of every class. -/
theorem dataAt_forall {P : TE → Prop} {f : Forest}
    (h : ∀ k d, f.data.get k = some d → ∀ e ∈ d, P e) (k : Nat) :
    ∀ e ∈ DS.dataAt setM f k, P e := fun x hx =>
  let ⟨d, hd, hxd⟩ := mem_dataAt hx
  h k d hd x hxd

theorem setUnion_forall {P : TE → Prop} {a b : List TE} (ha : ∀ e ∈ a, P e) (hb : ∀ e ∈ b, P e) :
    ∀ e ∈ setUnion a b, P e := fun x hx =>
  ((mem_setUnion _ _ _).mp hx).elim (ha x) (hb x)

/-- How every operation of the loop preserves the invariant: each data cell of the new forest is
either an old cell that is still present and still a root, or an `Equal`-free set stored at a
present root. -/
theorem uinv_of_cells {f f' : Forest} (h : UInv f) (hi : DS.Inv f')
    (hmem : ∀ w, f.mem w = true → f'.mem w = true)
    (hcell : ∀ k d, f'.data.get k = some d →
      (f.data.get k = some d ∧ (DS.rootOf f k = k → DS.rootOf f' k = k)) ∨
      ((∀ e ∈ d, NoEq e = true) ∧ f'.mem k = true ∧ DS.rootOf f' k = k)) : UInv f' := by
  refine ⟨hi, fun k d hk => ?_, fun k d hk => ?_⟩
  · rcases hcell k d hk with ⟨h1, _⟩ | ⟨h1, _⟩
    · exact h.2.1 k d h1
    · exact h1
  · rcases hcell k d hk with ⟨h1, h2⟩ | ⟨_, h2⟩
    · exact ⟨hmem k (h.2.2 k d h1).1, h2 (h.2.2 k d h1).2⟩
    · exact h2

theorem uinv_empty : UInv ({} : Forest) := by
  have hnone : ∀ k d, ({} : Forest).data.get k = some d → False := fun k d h => by
    rw [show ({} : Forest).data.get k = none from DS.get_empty k] at h; cases h
  exact ⟨DS.inv_empty, fun k d h => (hnone k d h).elim, fun k d h => (hnone k d h).elim⟩

theorem uinv_insert {f : Forest} (h : UInv f) (v : Nat) :
    UInv (f.insert v) ∧ (∀ w, DS.rootOf (f.insert v) w = DS.rootOf f w) ∧
      (f.insert v).data = f.data := by
  obtain ⟨i1, i2, _, i4, i5⟩ := DS.insert_spec f v h.1
  have hmem : ∀ w, f.mem w = true → (f.insert v).mem w = true := fun w hw => by rw [i4, hw]; rfl
  refine ⟨uinv_of_cells h i1 hmem (fun k d hk => .inl ⟨?_, fun hr => ?_⟩), i2, i5⟩
  · rw [← i5]; exact hk
  · rw [i2]; exact hr

theorem uinv_setData {f : Forest} (h : UInv f) (v : Nat) (d : List TE)
    (hd : ∀ e ∈ d, NoEq e = true) :
    ∃ f', f.setData v d = .ok f' ∧ UInv f' ∧ (∀ w, DS.rootOf f' w = DS.rootOf f w) ∧
      (∀ k, f'.data.get k = if k = DS.rootOf f v then some d else f.data.get k) := by
  obtain ⟨f', e, i1, i2, i3, i4⟩ := DS.setData_spec f v d h.1
  have hmem : ∀ w, f.mem w = true → f'.mem w = true := fun w hw => by rw [i4, hw]; rfl
  refine ⟨f', e, uinv_of_cells h i1 hmem (fun k d' hk => ?_), i2, i3⟩
  rw [i3] at hk
  split at hk
  · rename_i hk'
    injection hk with hk
    subst hk hk'
    exact .inr ⟨hd, mem_root_touch h.1 v hmem (by simp [i4]), by rw [i2]; exact DS.rootOf_idem h.1 v⟩
  · exact .inl ⟨hk, fun hr => by rw [i2]; exact hr⟩

theorem uinv_addData {f : Forest} (h : UInv f) (v : Nat) (d : List TE)
    (hd : ∀ e ∈ d, NoEq e = true) :
    ∃ f', f.addData setM v d = .ok f' ∧ UInv f' ∧ (∀ w, DS.rootOf f' w = DS.rootOf f w) ∧
      (∀ k, f'.data.get k =
        if k = DS.rootOf f v then some (setUnion (DS.dataAt setM f (DS.rootOf f v)) d)
        else f.data.get k) := by
  obtain ⟨f', e, i1, i2, i3, i4⟩ := DS.addData_spec setM f v d h.1
  have hmem : ∀ w, f.mem w = true → f'.mem w = true := fun w hw => by rw [i4, hw]; rfl
  refine ⟨f', e, uinv_of_cells h i1 hmem (fun k d' hk => ?_), i2, i3⟩
  rw [i3] at hk
  split at hk
  · rename_i hk'
    injection hk with hk
    subst hk hk'
    exact .inr ⟨setUnion_forall (dataAt_forall h.2.1 _) hd, mem_root_touch h.1 v hmem (by simp [i4]),
      by rw [i2]; exact DS.rootOf_idem h.1 v⟩
  · exact .inl ⟨hk, fun hr => by rw [i2]; exact hr⟩

theorem uinv_union {f : Forest} (h : UInv f) (a b : Nat) :
    ∃ f', f.union setM a b = .ok f' ∧ UInv f' ∧ RootsMono f f' ∧
      DS.rootOf f' a = DS.rootOf f' b := by
  obtain ⟨f', e, i1, i2, i3, i4⟩ := DS.union_spec setM f a b h.1
  have hmem : ∀ w, f.mem w = true → f'.mem w = true := fun w hw => by rw [i2, hw]; rfl
  by_cases hab : DS.rootOf f a = DS.rootOf f b
  · obtain ⟨j1, j2⟩ := i3 hab
    refine ⟨f', e, uinv_of_cells h i1 hmem (fun k d hk => .inl ⟨?_, fun hr => ?_⟩),
      RootsMono.of_eq j1, by rw [j1, j1]; exact hab⟩
    · rw [← j2]; exact hk
    · rw [j1]; exact hr
  · obtain ⟨j1, j2⟩ := i4 hab
    refine ⟨f', e, uinv_of_cells h i1 hmem (fun k d hk => ?_), fun x y hxy => by rw [j1, j1, hxy],
      by rw [j1, j1, if_neg hab, if_pos rfl]⟩
    rw [j2] at hk
    split at hk
    · -- the cell of the surviving root holds the union of the two sets
      rename_i hk'
      injection hk with hk
      subst hk hk'
      refine .inr ⟨setUnion_forall (dataAt_forall h.2.1 _) (dataAt_forall h.2.1 _), ?_, ?_⟩
      · exact mem_root_touch h.1 a hmem (by simp [i2])
      · rw [j1, DS.rootOf_idem h.1]; split <;> rfl
    · split at hk
      · cases hk
      · rename_i hkb
        exact .inl ⟨hk, fun hr => by rw [j1, hr, if_neg hkb]⟩

theorem uinv_sets {f : Forest} (h : UInv f) :
    UInv (f.sets setM).1 ∧ (∀ w, DS.rootOf (f.sets setM).1 w = DS.rootOf f w) ∧
      (∀ p ∈ (f.sets setM).2, (∀ e ∈ p.2, NoEq e = true) ∧
        (f.sets setM).1.data.get p.1 = some p.2 ∧ DS.rootOf f p.1 = p.1) ∧
      (∀ k d, (f.sets setM).1.data.get k = some d → (k, d) ∈ (f.sets setM).2) ∧
      ((f.sets setM).2.map (·.1)).Nodup := by
  obtain ⟨hi, hn, hr⟩ := h
  obtain ⟨f1, l, e, i1, i2, i3, _, i5, i6, i7⟩ := DS.sets_spec setM f hi
  have hmem : ∀ w, f1.mem w = f.mem w := fun w => by simp only [DS.mem, i2]
  rw [e]
  refine ⟨uinv_of_cells ⟨hi, hn, hr⟩ i1 (fun w hw => by rw [hmem]; exact hw) (fun k d hk => ?_),
    i3, ?_, ?_, i5⟩
  · rw [i7] at hk
    split at hk
    · rename_i hroot
      injection hk with hk
      subst hk
      have := (DS.isRoot_iff hi k).mp hroot
      exact .inr ⟨dataAt_forall hn k, by rw [hmem]; exact this.1, by rw [i3]; exact this.2⟩
    · exact .inl ⟨hk, fun hr => by rw [i3]; exact hr⟩
  · rintro ⟨k, d⟩ hp
    obtain ⟨h1, h2⟩ := (i6 k d).mp hp
    exact ⟨by rw [h2]; exact dataAt_forall hn k, by rw [i7, if_pos h1, h2],
      ((DS.isRoot_iff hi k).mp h1).2⟩
  · intro k d hk
    rw [i7] at hk
    split at hk
    · rename_i hroot
      injection hk with hk
      exact (i6 k d).mpr ⟨hroot, hk.symm⟩
    · rename_i hroot
      obtain ⟨a, b⟩ := hr k d hk
      exact absurd ((DS.isRoot_iff hi k).mpr ⟨a, b⟩) hroot

/-! ### `initForest` -/

/-- One step of the inner loop of `initForest`. -/
def initStep (v : Nat) (f : Forest) (e : TE) : Except UFault Forest :=
  match e with
  | .equal id => (match f.union setM v id with | .ok f' => .ok f' | .error x => .error (.forest x))
  | e => (match f.addData setM v [e] with | .ok f' => .ok f' | .error x => .error (.forest x))

theorem initForest_eq (o : Orders) (vars : List Nat) (infs : Nat → List TE) :
    initForest o vars infs =
      (o.vars vars).foldlM (fun (f : Forest) v => (o.tes (infs v)).foldlM (initStep v) f)
        ((o.vars vars).foldl (fun f v => f.insert v) {}) := rfl

/-- The loop reports a forest fault as `UFault.forest` and otherwise passes the result on. -/
theorem forestFault_ok {x : Except Fault Forest} {f' : Forest} :
    (match x with
      | .ok f' => (.ok f' : Except UFault Forest)
      | .error e => .error (.forest e)) = .ok f' ↔ x = .ok f' := by
  cases x with
  | ok a => exact ⟨fun h => (by injection h with h; rw [h]), fun h => (by injection h with h; rw [h])⟩
  | error e => exact ⟨fun h => (by cases h), fun h => (by cases h)⟩

theorem initStep_cases {v : Nat} {f f' : Forest} {e : TE} (h : initStep v f e = .ok f') :
    (∃ id, e = .equal id ∧ f.union setM v id = .ok f') ∨
    (NoEq e = true ∧ f.addData setM v [e] = .ok f') := by
  cases e with
  | equal id => exact .inl ⟨id, rfl, forestFault_ok.mp h⟩
  | _ => exact .inr ⟨rfl, forestFault_ok.mp h⟩

/-- The converse of `initStep_cases` for evidence that is not an `Equal`. -/
theorem initStep_of_noEq {v : Nat} {f f' : Forest} {e : TE} (he : NoEq e = true)
    (h : f.addData setM v [e] = .ok f') : initStep v f e = .ok f' := by
  cases e with
  | equal _ => cases he
  | _ => exact forestFault_ok.mpr h

theorem initStep_spec {f : Forest} (h : UInv f) (v : Nat) (e : TE) :
    ∃ f', initStep v f e = .ok f' ∧ UInv f' ∧ RootsMono f f' ∧
      (∀ id, e = .equal id → DS.rootOf f' v = DS.rootOf f' id) := by
  cases he : NoEq e with
  | true =>
    obtain ⟨f', e1, i1, i2, _⟩ := uinv_addData h v [e] (by simpa using he)
    exact ⟨f', initStep_of_noEq he e1, i1, RootsMono.of_eq i2,
      fun id hid => by subst hid; cases he⟩
  | false =>
    cases e with
    | equal id =>
      obtain ⟨f', e1, i1, i2, i3⟩ := uinv_union h v id
      exact ⟨f', forestFault_ok.mpr e1, i1, i2,
        fun id' hid => by injection hid with hid; subst hid; exact i3⟩
    | _ => cases he

theorem insertAll_uinv (vs : List Nat) {f : Forest} (h : UInv f) :
    UInv (vs.foldl (fun f v => f.insert v) f) ∧
      (∀ w, DS.rootOf (vs.foldl (fun f v => f.insert v) f) w = DS.rootOf f w) ∧
      (vs.foldl (fun f v => f.insert v) f).data = f.data := by
  induction vs generalizing f with
  | nil => exact ⟨h, fun _ => rfl, rfl⟩
  | cons v vs ih =>
    rw [List.foldl_cons]
    obtain ⟨a, b, c⟩ := uinv_insert h v
    obtain ⟨a', b', c'⟩ := ih a
    exact ⟨a', fun w => by rw [b', b], by rw [c', c]⟩

/-- Full specification of `initForest`: it returns normally, establishes the invariant, and every
`Equal` in the input is honoured. -/
theorem initForest_spec (o : Orders) (vars : List Nat) (infs : Nat → List TE) :
    ∃ f, initForest o vars infs = .ok f ∧ UInv f ∧
      ∀ v ∈ o.vars vars, ∀ id, .equal id ∈ o.tes (infs v) → DS.rootOf f v = DS.rootOf f id := by
  rw [initForest_eq]
  have h0 := (insertAll_uinv (o.vars vars) uinv_empty).1
  obtain ⟨f, e, i, _, q⟩ := foldlM_spec
    (fun (f : Forest) v => (o.tes (infs v)).foldlM (initStep v) f) UInv RootsMono
    (fun v f => ∀ id, .equal id ∈ o.tes (infs v) → DS.rootOf f v = DS.rootOf f id)
    RootsMono.refl (fun _ _ _ => RootsMono.trans) (fun v s s' hq hr id hid => hr _ _ (hq id hid))
    (o.vars vars)
    (by
      intro s v _ hs
      obtain ⟨s', e, i, r, q⟩ := foldlM_spec (initStep v) UInv RootsMono
        (fun e f => ∀ id, e = .equal id → DS.rootOf f v = DS.rootOf f id)
        RootsMono.refl (fun _ _ _ => RootsMono.trans)
        (fun e s s' hq hr id hid => hr _ _ (hq id hid)) (o.tes (infs v))
        (fun s e _ hs => initStep_spec hs v e) s hs
      exact ⟨s', e, i, r, fun id hid => q _ hid id rfl⟩)
    _ h0
  exact ⟨f, e, i, q⟩

/-- `initForest` establishes the invariant (`Equal` is routed to `union`, never stored). -/
theorem initForest_inv {o : Orders} {vars : List Nat} {infs : Nat → List TE} {f : Forest}
    (ho : OrdersOk o) (h : initForest o vars infs = .ok f) : UInv f := by
  obtain ⟨f', e, i, _⟩ := initForest_spec o vars infs
  rw [e] at h; injection h with h; subst h; exact i

/-! ### `foldClass` -/

abbrev FCAcc := TE × Nat × List (Nat × Nat) × List (Nat × TE) × List Nat

def fcStep (root : Nat) (acc : FCAcc) (e : TE) : Except UFault FCAcc :=
  let (cur, next, eqs, js, nvs) := acc
  match merge cur e root next with
  | .error x => .error (.merge x)
  | .ok m => .ok (m.expr, m.next, eqs ++ m.eqs, js ++ m.judgements, nvs ++ m.newVars)

theorem foldClass_cons (root : Nat) (first : TE) (rest : List TE) (next : Nat) :
    foldClass root (first :: rest) next = rest.foldlM (fcStep root) (first, next, [], [], []) := rfl

theorem foldClass_single (root : Nat) (e : TE) (next : Nat) :
    foldClass root [e] next = .ok (e, next, [], [], []) := rfl

theorem foldClass_good (root : Nat) (ev : List TE) (next : Nat) (hne : ev ≠ [])
    (hev : ∀ e ∈ ev, NoEq e = true) :
    ∃ r : FCAcc, foldClass root ev next = .ok r ∧ NoEq r.1 = true ∧
      ∀ j ∈ r.2.2.2.1, NoEq j.2 = true := by
  cases ev with
  | nil => exact absurd rfl hne
  | cons first rest =>
    rw [foldClass_cons]
    obtain ⟨r, e, i, _⟩ := foldlM_spec (fcStep root)
      (fun (a : FCAcc) => NoEq a.1 = true ∧ ∀ j ∈ a.2.2.2.1, NoEq j.2 = true)
      (fun _ _ => True) (fun _ _ => True) (fun _ => trivial) (fun _ _ _ _ _ => trivial)
      (fun _ _ _ _ _ => trivial) rest
      (by
        rintro ⟨cur, nx, eqs, js, nvs⟩ e he ⟨h1, h2⟩
        obtain ⟨m, hm, g1, g2⟩ := merge_good cur e root nx h1
          (hev e (List.mem_cons_of_mem _ he))
        refine ⟨(m.expr, m.next, eqs ++ m.eqs, js ++ m.judgements, nvs ++ m.newVars),
          by simp only [fcStep, hm], ⟨g1, ?_⟩, trivial, trivial⟩
        intro j hj
        rcases List.mem_append.mp hj with hj | hj
        · exact h2 j hj
        · exact g2 j hj)
      (first, next, [], [], []) ⟨hev _ (List.mem_cons_self ..), by simp⟩
    exact ⟨r, e, i⟩

/-! ### One round, split into its loop body and its tail -/

def roundStep (o : Orders) (acc : RoundAcc) (p : Nat × List TE) : Except UFault RoundAcc :=
  let (root, infs) := p
  let acc := { acc with polls := acc.polls + 1 }
  if infs.isEmpty then .ok acc
  else
    let ev := o.tes infs
    match foldClass root ev acc.next with
    | .error e => .error e
    | .ok (cur, next', eqs, js, nvs) =>
      match acc.forest.setData root [cur] with
      | .error x => .error (.forest x)
      | .ok f' =>
        .ok { acc with forest := f', next := next', eqs := acc.eqs ++ eqs,
                       judgements := acc.judgements ++ js, newVars := acc.newVars ++ nvs,
                       progress := acc.progress || ev.length > 1, counter := acc.counter + 1 }

def unionStep (f : Forest) (p : Nat × Nat) : Except UFault Forest :=
  match f.union setM p.1 p.2 with | .ok f' => .ok f' | .error x => .error (UFault.forest x)

def judgeStep (f : Forest) (p : Nat × TE) : Except UFault Forest :=
  match f.addData setM p.1 [p.2] with | .ok f' => .ok f' | .error x => .error (UFault.forest x)

def roundTail (o : Orders) (acc : RoundAcc) : Except UFault RoundAcc :=
  match (o.eqs (dedup acc.eqs)).foldlM unionStep
      ((o.vars (dedup acc.newVars)).foldl (fun f v => f.insert v) acc.forest) with
  | .error e => .error e
  | .ok f3 =>
    match (o.judgements (dedup acc.judgements)).foldlM judgeStep f3 with
    | .error e => .error e
    | .ok f4 => .ok { acc with forest := f4 }

def roundLoop (o : Orders) (f : Forest) (next counter : Nat) : Except UFault RoundAcc :=
  (f.sets setM).2.foldlM (roundStep o)
    { forest := (f.sets setM).1, next := next, counter := counter }

theorem round_eq (o : Orders) (f : Forest) (next counter : Nat) :
    round o f next counter =
      (match roundLoop o f next counter with
       | .error e => .error e
       | .ok acc => roundTail o acc) := by
  rfl

theorem roundStep_cases {o : Orders} {acc acc' : RoundAcc} {p : Nat × List TE}
    (h : roundStep o acc p = .ok acc') :
    (p.2 = [] ∧ acc' = { acc with polls := acc.polls + 1 }) ∨
    (p.2 ≠ [] ∧ ∃ cur nx eqs js nvs f',
      foldClass p.1 (o.tes p.2) acc.next = .ok (cur, nx, eqs, js, nvs) ∧
      acc.forest.setData p.1 [cur] = .ok f' ∧
      acc' = { forest := f', next := nx, eqs := acc.eqs ++ eqs,
               judgements := acc.judgements ++ js, newVars := acc.newVars ++ nvs,
               progress := acc.progress || decide ((o.tes p.2).length > 1),
               polls := acc.polls + 1, counter := acc.counter + 1 }) := by
  obtain ⟨root, infs⟩ := p
  unfold roundStep at h
  simp only [] at h
  cases infs with
  | nil =>
    left
    simp only [List.isEmpty_nil, if_true] at h
    injection h with h
    exact ⟨rfl, h.symm⟩
  | cons x xs =>
    right
    refine ⟨by simp, ?_⟩
    simp only [List.isEmpty_cons, Bool.false_eq_true, if_false] at h
    split at h
    · cases h
    · rename_i cur nx eqs js nvs hfc
      split at h
      · cases h
      · rename_i f' hsd
        injection h with h
        exact ⟨cur, nx, eqs, js, nvs, f', hfc, hsd, h.symm⟩

/-- Loop invariant of the round's fold over the classes. -/
def LoopI (acc : RoundAcc) : Prop :=
  UInv acc.forest ∧ ∀ j ∈ acc.judgements, NoEq j.2 = true

def SameRoots (f f' : Forest) : Prop := ∀ w, DS.rootOf f' w = DS.rootOf f w

theorem SameRoots.refl (f : Forest) : SameRoots f f := fun _ => rfl
theorem SameRoots.trans {a b c : Forest} (h1 : SameRoots a b) (h2 : SameRoots b c) :
    SameRoots a c := fun w => by rw [h2 w, h1 w]

theorem roundStep_inv {o : Orders} (ho : OrdersOk o) {acc : RoundAcc} {p : Nat × List TE}
    (hi : LoopI acc) (hp : ∀ e ∈ p.2, NoEq e = true) :
    ∃ acc', roundStep o acc p = .ok acc' ∧ LoopI acc' ∧ SameRoots acc.forest acc'.forest := by
  obtain ⟨root, infs⟩ := p
  unfold roundStep
  cases infs with
  | nil => exact ⟨_, rfl, hi, SameRoots.refl _⟩
  | cons x xs =>
    simp only [List.isEmpty_cons, Bool.false_eq_true, if_false]
    have hperm := ho.2.1 (x :: xs)
    have hne : o.tes (x :: xs) ≠ [] := fun h => by
      have := hperm.length_eq
      rw [h] at this; cases this
    obtain ⟨⟨cur, nx, eqs, js, nvs⟩, e1, g1, g2⟩ := foldClass_good root (o.tes (x :: xs)) acc.next
      hne (fun e he => hp e (hperm.mem_iff.mp he))
    obtain ⟨f', e2, u1, u2, _⟩ := uinv_setData hi.1 root [cur] (by simpa using g1)
    rw [e1]
    simp only []
    rw [e2]
    exact ⟨_, rfl, ⟨u1, fun j hj => (List.mem_append.mp hj).elim (hi.2 j) (g2 j)⟩, u2⟩

theorem roundLoop_inv {o : Orders} (ho : OrdersOk o) {f : Forest} (h : UInv f)
    (next counter : Nat) :
    ∃ acc, roundLoop o f next counter = .ok acc ∧ LoopI acc ∧ SameRoots f acc.forest := by
  obtain ⟨s1, s2, s3, _⟩ := uinv_sets h
  obtain ⟨acc, e, i, r, _⟩ := foldlM_spec (roundStep o) LoopI
    (fun a b => SameRoots a.forest b.forest) (fun _ _ => True)
    (fun _ => SameRoots.refl _) (fun _ _ _ => SameRoots.trans) (fun _ _ _ _ _ => trivial)
    (f.sets setM).2
    (fun acc p hp hi => by
      obtain ⟨acc', a, b, c⟩ := roundStep_inv ho hi (s3 p hp).1
      exact ⟨acc', a, b, c, trivial⟩)
    { forest := (f.sets setM).1, next := next, counter := counter } ⟨s1, by simp⟩
  exact ⟨acc, e, i, fun w => by rw [r w]; exact s2 w⟩

theorem unionStep_spec {f : Forest} (h : UInv f) (p : Nat × Nat) :
    ∃ f', unionStep f p = .ok f' ∧ UInv f' ∧ RootsMono f f' ∧
      DS.rootOf f' p.1 = DS.rootOf f' p.2 := by
  obtain ⟨f', e, a, b, c⟩ := uinv_union h p.1 p.2
  exact ⟨f', by simp only [unionStep, e], a, b, c⟩

theorem judgeStep_spec {f : Forest} (h : UInv f) (p : Nat × TE) (hp : NoEq p.2 = true) :
    ∃ f', judgeStep f p = .ok f' ∧ UInv f' ∧ SameRoots f f' := by
  obtain ⟨f', e, a, b, _⟩ := uinv_addData h p.1 [p.2] (by simpa using hp)
  exact ⟨f', by simp only [judgeStep, e], a, b⟩

theorem roundTail_spec {o : Orders} (ho : OrdersOk o) {acc : RoundAcc} (hi : LoopI acc) :
    ∃ f4, roundTail o acc = .ok { acc with forest := f4 } ∧ UInv f4 ∧
      RootsMono acc.forest f4 ∧ ∀ p ∈ acc.eqs, DS.rootOf f4 p.1 = DS.rootOf f4 p.2 := by
  obtain ⟨u2, r2, _⟩ := insertAll_uinv (o.vars (dedup acc.newVars)) hi.1
  obtain ⟨f3, e3, u3, r3, q3⟩ := foldlM_spec unionStep UInv RootsMono
    (fun p f => DS.rootOf f p.1 = DS.rootOf f p.2) RootsMono.refl (fun _ _ _ => RootsMono.trans)
    (fun p s s' hq hr => hr _ _ hq) (o.eqs (dedup acc.eqs))
    (fun s p _ hs => unionStep_spec hs p) _ u2
  obtain ⟨f4, e4, u4, r4, _⟩ := foldlM_spec judgeStep UInv SameRoots (fun _ _ => True)
    SameRoots.refl (fun _ _ _ => SameRoots.trans) (fun _ _ _ _ _ => trivial)
    (o.judgements (dedup acc.judgements))
    (fun s p hp hs => by
      have : p ∈ acc.judgements := (mem_dedup _ _).mp ((ho.2.2.2 _).mem_iff.mp hp)
      obtain ⟨s', a, b, c⟩ := judgeStep_spec hs p (hi.2 p this)
      exact ⟨s', a, b, c, trivial⟩) f3 u3
  refine ⟨f4, ?_, u4, ?_, ?_⟩
  · unfold roundTail; rw [e3]; simp only []; rw [e4]
  · exact (RootsMono.of_eq r2).trans (r3.trans (RootsMono.of_eq r4))
  · intro p hp
    have : p ∈ o.eqs (dedup acc.eqs) := (ho.2.2.1 _).mem_iff.mpr ((mem_dedup _ _).mpr hp)
    rw [r4, r4]; exact q3 p this

/-- Full specification of one round: it returns normally, preserves the invariant, never
splits a class, and unifies every pair of component variables it emitted. -/
theorem round_spec {o : Orders} (ho : OrdersOk o) {f : Forest} (h : UInv f) (next counter : Nat) :
    ∃ acc, round o f next counter = .ok acc ∧ UInv acc.forest ∧ RootsMono f acc.forest ∧
      ∀ p ∈ acc.eqs, DS.rootOf acc.forest p.1 = DS.rootOf acc.forest p.2 := by
  obtain ⟨acc, e, i, r⟩ := roundLoop_inv ho h next counter
  obtain ⟨f4, e4, u4, r4, q4⟩ := roundTail_spec ho i
  refine ⟨{ acc with forest := f4 }, ?_, u4, (RootsMono.of_eq r).trans r4, q4⟩
  rw [round_eq, e]; exact e4

/-- A round preserves the invariant and never panics (no forest fault, no merge fault). -/
theorem round_inv {o : Orders} {f : Forest} {next counter : Nat} (ho : OrdersOk o) (h : UInv f) :
    (∀ acc, round o f next counter = .ok acc → UInv acc.forest) ∧
    (∀ e, round o f next counter = .error e → False) := by
  obtain ⟨acc, e, i, _⟩ := round_spec ho h next counter
  constructor
  · intro acc' h'; rw [e] at h'; injection h' with h'; subst h'; exact i
  · intro e' h'; rw [e] at h'; cases h'

/-- Component variables of mappings / arrays that met in a class are unified in the next
forest. -/
theorem round_emitted_eqs {o : Orders} {f : Forest} {next counter : Nat} {acc : RoundAcc}
    (ho : OrdersOk o) (h : UInv f) (hr : round o f next counter = .ok acc) :
    ∀ p ∈ acc.eqs, DS.rootOf acc.forest p.1 = DS.rootOf acc.forest p.2 := by
  obtain ⟨acc', e, _, _, q⟩ := round_spec ho h next counter
  rw [e] at hr; injection hr with hr; subst hr; exact q

/-! ## Post-condition of a finished unification -/

/-- Every class holds at most one piece of evidence. -/
def Single (f : Forest) : Prop := ∀ k d, f.data.get k = some d → d.length ≤ 1

/-- What the fold over the classes does to the data cells, when the list holds each root once
together with its data: the cell of a class with evidence is overwritten by the single folded
piece, every other cell is left alone. -/
theorem loop_cells {o : Orders} (l : List (Nat × List TE)) :
    ∀ acc acc', (l.map (·.1)).Nodup → DS.Inv acc.forest →
      (∀ p ∈ l, acc.forest.data.get p.1 = some p.2 ∧ DS.rootOf acc.forest p.1 = p.1) →
      l.foldlM (roundStep o) acc = .ok acc' →
      ∀ k, (∃ p ∈ l, p.1 = k ∧ p.2 ≠ [] ∧ ∃ r nx, foldClass k (o.tes p.2) nx = .ok r ∧
              acc'.forest.data.get k = some [r.1]) ∨
        ((∀ p ∈ l, p.1 = k → p.2 = []) ∧ acc'.forest.data.get k = acc.forest.data.get k) := by
  induction l with
  | nil =>
    intro acc acc' _ _ _ h k
    injection h with h; subst h
    exact .inr ⟨fun p hp => (by cases hp), rfl⟩
  | cons p rest ih =>
    intro acc acc' hnd hi hD h k
    rw [List.map_cons, List.nodup_cons] at hnd
    rw [List.foldlM_cons] at h
    cases e1 : roundStep o acc p with
    | error e => rw [e1] at h; cases h
    | ok acc1 =>
      rw [e1] at h
      have h : List.foldlM (roundStep o) acc1 rest = .ok acc' := h
      have hrestD := fun q hq => hD q (List.mem_cons_of_mem _ hq)
      rcases roundStep_cases e1 with ⟨hnil, rfl⟩ | ⟨hne, cur, nx, eqs, js, nvs, f', h1, h2, rfl⟩
      · rcases ih { acc with polls := acc.polls + 1 } acc' hnd.2 hi hrestD h k with
          ⟨q, hq, c⟩ | ⟨c1, c2⟩
        · exact .inl ⟨q, List.mem_cons_of_mem _ hq, c⟩
        · refine .inr ⟨fun q hq hk => ?_, c2⟩
          rcases List.mem_cons.mp hq with rfl | hq
          · exact hnil
          · exact c1 q hq hk
      · obtain ⟨f'', e2, i1, i2, i3, _⟩ := DS.setData_spec acc.forest p.1 [cur] hi
        rw [h2] at e2; injection e2 with e2; subst e2
        rw [(hD p (List.mem_cons_self ..)).2] at i3
        have hq1 : ∀ q ∈ rest, q.1 ≠ p.1 := fun q hq e => hnd.1 (List.mem_map.mpr ⟨q, hq, e⟩)
        rcases ih _ acc' hnd.2 i1
            (fun q hq => ⟨by rw [i3, if_neg (hq1 q hq)]; exact (hrestD q hq).1,
              by rw [i2]; exact (hrestD q hq).2⟩) h k with ⟨q, hq, c⟩ | ⟨c1, c2⟩
        · exact .inl ⟨q, List.mem_cons_of_mem _ hq, c⟩
        · rw [i3] at c2
          by_cases hk : k = p.1
          · subst hk
            rw [if_pos rfl] at c2
            exact .inl ⟨p, List.mem_cons_self .., rfl, hne, _, _, h1, c2⟩
          · rw [if_neg hk] at c2
            refine .inr ⟨fun q hq hqk => ?_, c2⟩
            rcases List.mem_cons.mp hq with rfl | hq
            · exact absurd hqk.symm hk
            · exact c1 q hq hqk

/-- After the fold every class holds at most one piece, if every data cell was listed. -/
theorem single_of_cells {o : Orders} {l : List (Nat × List TE)} {f f' : Forest}
    (hall : ∀ k d, f.data.get k = some d → (k, d) ∈ l)
    (hcells : ∀ k, (∃ p ∈ l, p.1 = k ∧ p.2 ≠ [] ∧ ∃ r nx, foldClass k (o.tes p.2) nx = .ok r ∧
              f'.data.get k = some [r.1]) ∨
        ((∀ p ∈ l, p.1 = k → p.2 = []) ∧ f'.data.get k = f.data.get k)) : Single f' := by
  intro k d hk
  rcases hcells k with ⟨_, _, _, _, r, _, _, hc⟩ | ⟨hnil, hsame⟩
  · rw [hc] at hk; injection hk with hk; subst hk; exact Nat.le_refl _
  · rw [hsame] at hk
    rw [show d = [] from hnil (k, d) (hall k d hk) rfl]
    exact Nat.zero_le _

/-- A fold that reports no progress merged nothing: no equalities, judgements or fresh
variables were emitted. -/
theorem loop_quiet {o : Orders} (ho : OrdersOk o) (l : List (Nat × List TE)) (acc acc' : RoundAcc)
    (h : l.foldlM (roundStep o) acc = .ok acc') (hp : acc'.progress = false) :
    acc'.eqs = acc.eqs ∧ acc'.judgements = acc.judgements ∧ acc'.newVars = acc.newVars := by
  have := foldlM_rel (roundStep o) (fun _ => True)
    (fun a b => b.progress = false → a.progress = false ∧ b.eqs = a.eqs ∧
      b.judgements = a.judgements ∧ b.newVars = a.newVars) (fun _ _ => True)
    (fun _ h => ⟨h, rfl, rfl, rfl⟩)
    (fun a b c h1 h2 hc => by
      obtain ⟨hb, e1, e2, e3⟩ := h2 hc
      obtain ⟨ha, d1, d2, d3⟩ := h1 hb
      exact ⟨ha, e1.trans d1, e2.trans d2, e3.trans d3⟩)
    (fun _ _ _ _ _ => trivial) l
    (fun s x s' _ _ hs => by
      refine ⟨trivial, fun hp' => ?_, trivial⟩
      rcases roundStep_cases hs with ⟨_, rfl⟩ | ⟨hne, cur, nx, eqs, js, nvs, f', h1, _, rfl⟩
      · exact ⟨hp', rfl, rfl, rfl⟩
      · -- no progress: the class held exactly one piece, which `foldClass` returns unchanged
        simp only [Bool.or_eq_false_iff, decide_eq_false_iff_not] at hp'
        have hlen : (o.tes x.2).length = 1 := by
          have h3 := (ho.2.1 x.2).length_eq
          have h4 : x.2.length ≠ 0 := fun h => hne (List.eq_nil_of_length_eq_zero h)
          omega
        obtain ⟨e, he⟩ := List.length_eq_one_iff.mp hlen
        rw [he, foldClass_single] at h1
        injection h1 with h1
        simp only [Prod.mk.injEq] at h1
        obtain ⟨_, _, rfl, rfl, rfl⟩ := h1
        exact ⟨hp'.1, List.append_nil _, List.append_nil _, List.append_nil _⟩)
    acc acc' trivial h
  exact (this.2.1 hp).2

/-- With no judgements and no fresh variables the tail of a round only unites the emitted pairs. -/
theorem roundTail_quiet {o : Orders} (ho : OrdersOk o) (acc : RoundAcc)
    (h2 : acc.judgements = []) (h3 : acc.newVars = []) :
    roundTail o acc = match (o.eqs (dedup acc.eqs)).foldlM unionStep acc.forest with
      | .error e => .error e
      | .ok f3 => .ok { acc with forest := f3 } := by
  unfold roundTail
  rw [h2, h3, dedup_nil, dedup_nil, List.Perm.eq_nil (ho.1 []), List.Perm.eq_nil (ho.2.2.2 [])]
  rfl

theorem roundTail_nil {o : Orders} (ho : OrdersOk o) (acc : RoundAcc) (h1 : acc.eqs = [])
    (h2 : acc.judgements = []) (h3 : acc.newVars = []) : roundTail o acc = .ok acc := by
  have : o.eqs (dedup acc.eqs) = [] := by rw [h1, dedup_nil, List.Perm.eq_nil (ho.2.2.1 [])]
  rw [roundTail_quiet ho acc h2 h3, this]
  rfl

/-- A round that makes no progress leaves at most one piece of evidence in every class
(and performed no merge: no equalities, judgements or fresh variables were emitted). -/
theorem round_no_progress_single {o : Orders} {f : Forest} {next counter : Nat} {acc : RoundAcc}
    (ho : OrdersOk o) (h : UInv f) (hr : round o f next counter = .ok acc)
    (hp : acc.progress = false) :
    (∀ k d, acc.forest.data.get k = some d → d.length ≤ 1) ∧
      acc.eqs = [] ∧ acc.judgements = [] ∧ acc.newVars = [] := by
  obtain ⟨acc0, e0, i0, r0⟩ := roundLoop_inv ho h next counter
  obtain ⟨f4, e4, _⟩ := roundTail_spec ho i0
  rw [round_eq, e0] at hr
  simp only [] at hr
  rw [e4] at hr; injection hr with hr; subst hr
  simp only [] at hp
  obtain ⟨s1, s2, s3, s4, s5⟩ := uinv_sets h
  have g1 : Single acc0.forest := single_of_cells (o := o) s4
    (loop_cells (f.sets setM).2 { forest := (f.sets setM).1, next := next, counter := counter }
      acc0 s5 s1.1 (fun p hp => ⟨(s3 p hp).2.1, (s2 p.1).trans (s3 p hp).2.2⟩) e0)
  obtain ⟨g2, g3, g4⟩ := loop_quiet ho _ _ acc0 e0 hp
  have := roundTail_nil ho acc0 g2 g3 g4
  rw [e4] at this; injection this with this
  have hf : f4 = acc0.forest := by rw [← this]
  subst hf
  exact ⟨g1, g2, g3, g4⟩

/-! ## Classes only ever merge (no assumption on the orders) -/

theorem inv_union {f : Forest} (hi : DS.Inv f) (a b : Nat) :
    ∃ f', f.union setM a b = .ok f' ∧ DS.Inv f' ∧ RootsMono f f' ∧
      DS.rootOf f' a = DS.rootOf f' b := by
  obtain ⟨f', e, i1, i2, i3, i4⟩ := DS.union_spec setM f a b hi
  by_cases hab : DS.rootOf f a = DS.rootOf f b
  · obtain ⟨j1, j2⟩ := i3 hab
    exact ⟨f', e, i1, RootsMono.of_eq j1, by rw [j1, j1]; exact hab⟩
  · obtain ⟨j1, j2⟩ := i4 hab
    refine ⟨f', e, i1, ?_, ?_⟩
    · intro x y hxy
      rw [j1, j1, hxy]
    · rw [j1, j1, if_neg hab, if_pos rfl]

theorem roundLoop_mono {o : Orders} {f : Forest} {next counter : Nat} {acc : RoundAcc}
    (hi : DS.Inv f) (h : roundLoop o f next counter = .ok acc) :
    DS.Inv acc.forest ∧ SameRoots f acc.forest := by
  obtain ⟨f1, l, e, i1, _, i3, _⟩ := DS.sets_spec setM f hi
  have hf1 : (f.sets setM).1 = f1 := by rw [e]
  obtain ⟨a, b, _⟩ := foldlM_rel (roundStep o) (fun a => DS.Inv a.forest)
    (fun a b => SameRoots a.forest b.forest) (fun _ _ => True)
    (fun _ => SameRoots.refl _) (fun _ _ _ => SameRoots.trans) (fun _ _ _ _ _ => trivial)
    (f.sets setM).2
    (fun s x s' _ hs h => by
      rcases roundStep_cases h with ⟨_, rfl⟩ | ⟨_, cur, nx, eqs, js, nvs, f', _, h2, rfl⟩
      · exact ⟨hs, SameRoots.refl _, trivial⟩
      · obtain ⟨f'', e2, j1, j2, _⟩ := DS.setData_spec s.forest x.1 [cur] hs
        rw [h2] at e2; injection e2 with e2; subst e2
        exact ⟨j1, j2, trivial⟩)
    _ acc (by simp only []; rw [hf1]; exact i1) h
  refine ⟨a, fun w => ?_⟩
  rw [b w]; simp only []; rw [hf1]; exact i3 w

theorem roundTail_mono {o : Orders} {acc acc' : RoundAcc} (hi : DS.Inv acc.forest)
    (h : roundTail o acc = .ok acc') :
    DS.Inv acc'.forest ∧ RootsMono acc.forest acc'.forest := by
  obtain ⟨u2, r2⟩ := foldl_inv (fun (g : Forest) v => g.insert v)
    (fun g => DS.Inv g ∧ SameRoots acc.forest g) (o.vars (dedup acc.newVars))
    (fun g v _ hg => by
      obtain ⟨a, b, _⟩ := DS.insert_spec g v hg.1
      exact ⟨a, fun w => by rw [b, hg.2 w]⟩)
    acc.forest ⟨hi, fun _ => rfl⟩
  unfold roundTail at h
  split at h
  · cases h
  · rename_i f3 e3
    split at h
    · cases h
    · rename_i f4 e4
      injection h with h; subst h
      obtain ⟨u3, r3, _⟩ := foldlM_rel unionStep DS.Inv RootsMono (fun _ _ => True)
        RootsMono.refl (fun _ _ _ => RootsMono.trans) (fun _ _ _ _ _ => trivial)
        (o.eqs (dedup acc.eqs))
        (fun s p s' _ hs h => by
          obtain ⟨s'', e, a, b, _⟩ := inv_union hs p.1 p.2
          simp only [unionStep, e] at h
          injection h with h; subst h
          exact ⟨a, b, trivial⟩) _ f3 u2 e3
      obtain ⟨u4, r4, _⟩ := foldlM_rel judgeStep DS.Inv SameRoots (fun _ _ => True)
        SameRoots.refl (fun _ _ _ => SameRoots.trans) (fun _ _ _ _ _ => trivial)
        (o.judgements (dedup acc.judgements))
        (fun s p s' _ hs h => by
          obtain ⟨s'', e, a, b, _⟩ := DS.addData_spec setM s p.1 [p.2] hs
          simp only [judgeStep, e] at h
          injection h with h; subst h
          exact ⟨a, b, trivial⟩) f3 f4 u3 e4
      exact ⟨u4, (RootsMono.of_eq r2).trans (r3.trans (RootsMono.of_eq r4))⟩

/-- A round never splits a class (for arbitrary order functions). -/
theorem round_roots_mono {o : Orders} {f : Forest} {next counter : Nat} {acc : RoundAcc}
    (h : UInv f) (hr : round o f next counter = .ok acc) :
    ∀ a b, DS.rootOf f a = DS.rootOf f b → DS.rootOf acc.forest a = DS.rootOf acc.forest b := by
  rw [round_eq] at hr
  split at hr
  · cases hr
  · rename_i acc0 e0
    obtain ⟨i0, r0⟩ := roundLoop_mono h.1 e0
    obtain ⟨_, r1⟩ := roundTail_mono i0 hr
    exact (RootsMono.of_eq r0).trans r1

/-! ## The loop -/

theorem unifyLoop_spec {o : Orders} (ho : OrdersOk o) :
    ∀ (fuel : Nat) (f : Forest) (next counter rounds : Nat), UInv f →
      (∀ f' n r, unifyLoop o fuel f next counter rounds = .ok (f', n, r) →
        UInv f' ∧ Single f' ∧ RootsMono f f') ∧
      (∀ e, unifyLoop o fuel f next counter rounds = .error e → e = .outOfFuel) := by
  intro fuel
  induction fuel with
  | zero =>
    intro f next counter rounds _
    constructor
    · intro f' n r h; simp [unifyLoop] at h
    · intro e h
      simp only [unifyLoop] at h
      injection h with h; exact h.symm
  | succ fuel ih =>
    intro f next counter rounds hf
    obtain ⟨acc, e, i, m, _⟩ := round_spec ho hf next counter
    have hsingle := fun hp => (round_no_progress_single ho hf e hp).1
    rw [unifyLoop, e]
    simp only []
    cases hp : acc.progress with
    | true =>
      simp only [if_true]
      obtain ⟨a, b⟩ := ih acc.forest acc.next acc.counter (rounds + 1) i
      refine ⟨fun f' n r h => ?_, b⟩
      obtain ⟨x, y, z⟩ := a f' n r h
      exact ⟨x, y, m.trans z⟩
    | false =>
      simp only [Bool.false_eq_true, if_false]
      constructor
      · intro f' n r h
        injection h with h
        simp only [Prod.mk.injEq] at h
        obtain ⟨rfl, _, _⟩ := h
        exact ⟨i, hsingle hp, m⟩
      · intro e h; cases h

/-- `unify` as a whole: a result satisfies the invariant, holds at most one piece of evidence per
class and honours every equality of the input; the only possible error is running out of the
model's fuel. -/
theorem unify_spec {o : Orders} (ho : OrdersOk o) (fuel nvars : Nat) (infs : Nat → List TE) :
    (∀ f n r, unify o fuel nvars infs = .ok (f, n, r) → UInv f ∧ Single f ∧
      ∀ v id, v < nvars → .equal id ∈ infs v → DS.rootOf f v = DS.rootOf f id) ∧
    (∀ e, unify o fuel nvars infs = .error e → e = .outOfFuel) := by
  obtain ⟨f0, e0, i0, q0⟩ := initForest_spec o (List.range nvars) infs
  have hu : unify o fuel nvars infs = unifyLoop o fuel f0 nvars 0 0 := by unfold unify; rw [e0]
  rw [hu]
  obtain ⟨a, b⟩ := unifyLoop_spec ho fuel f0 nvars 0 0 i0
  refine ⟨fun f n r h => ?_, b⟩
  obtain ⟨x, y, m⟩ := a f n r h
  exact ⟨x, y, fun v id hv hid => m _ _
    (q0 v ((ho.1 _).mem_iff.mpr (List.mem_range.mpr hv)) id ((ho.2.1 _).mem_iff.mpr hid))⟩

/-- The result of `unify` satisfies the invariant, every class holds at most one piece of
evidence, and no piece is an unresolved `Equal`. -/
theorem unify_post {o : Orders} {fuel nvars : Nat} {infs : Nat → List TE} {f : Forest} {n r : Nat}
    (ho : OrdersOk o) (h : unify o fuel nvars infs = .ok (f, n, r)) :
    UInv f ∧ ∀ k d, f.data.get k = some d → d.length ≤ 1 ∧ ∀ e ∈ d, NoEq e = true :=
  let ⟨a, b, _⟩ := (unify_spec ho fuel nvars infs).1 f n r h
  ⟨a, fun k d hk => ⟨b k d hk, a.2.1 k d hk⟩⟩

/-- `unifyLoop` never splits a class. -/
theorem unifyLoop_roots_mono {o : Orders} {fuel : Nat} {f f' : Forest} {next counter rounds n r : Nat}
    (ho : OrdersOk o) (hf : UInv f)
    (h : unifyLoop o fuel f next counter rounds = .ok (f', n, r)) :
    ∀ a b, DS.rootOf f a = DS.rootOf f b → DS.rootOf f' a = DS.rootOf f' b :=
  ((unifyLoop_spec ho fuel f next counter rounds hf).1 f' n r h).2.2

/-- Every equality in the input is honoured by the final forest. -/
theorem unify_equalities {o : Orders} {fuel nvars : Nat} {infs : Nat → List TE} {f : Forest}
    {n r : Nat} (ho : OrdersOk o) (h : unify o fuel nvars infs = .ok (f, n, r)) :
    ∀ v id, v < nvars → .equal id ∈ infs v → DS.rootOf f v = DS.rootOf f id :=
  ((unify_spec ho fuel nvars infs).1 f n r h).2.2

/-! ## Why the invariant needs "data only at roots"

With only `DS.Inv f ∧ DataNoEq f` the post-condition of a no-progress round is false: a forest
may carry stale data in a non-root cell, which `sets` never visits. -/

def cexForest : Forest :=
  { reps := { data := [some 0, some 0], size := 2 },
    data := { data := [none, some [.any, .bytes]], size := 1 } }

theorem cex_weak_inv : DS.Inv cexForest ∧ DataNoEq cexForest := by
  refine ⟨⟨rfl, rfl, fun i => if i = 0 then 1 else 0, ?_⟩, ?_⟩
  · intro i p h hne
    rcases i with _ | _ | i
    · simp [cexForest, VMap.get] at h; exact absurd h.symm hne
    · simp [cexForest, VMap.get] at h; subst h; simp [cexForest, VMap.get]
    · simp [cexForest, VMap.get] at h
  · intro k d h
    rcases k with _ | _ | k
    · simp [cexForest, VMap.get] at h
    · simp [cexForest, VMap.get] at h; subst h; simp [NoEq]
    · simp [cexForest, VMap.get] at h

theorem cex_round : ∃ acc, round idOrders cexForest 0 0 = .ok acc ∧ acc.progress = false ∧
    acc.forest.data.get 1 = some [.any, .bytes] :=
  ⟨_, rfl, rfl, rfl⟩

end SLE.Unify
