import SLE.Lemmas.OrderFacts
import SLE.Lemmas.UnifyTerm
import SLE.Lemmas.Join
/-!
C15 through the whole unification — word evidence spread over equated variables.

`Join.lean` proves "compatible evidence joins / contradictions conflict" for one class *fold*
(`foldMerge`).  Here the statement is lifted through `unify`: with word-only evidence the first
round folds every class's evidence set (the union of the evidence of all equated variables, as
`initForest` collected it) into one expression, changes no partition, allocates no variable; a
second round (if any) is the identity; the loop stops after at most two rounds.  `WordResult` is
the closed form of the result; `ev_eq` adds that the fold of a class does not depend on the order
in which its evidence is enumerated, so that two runs — of the same input or of two inputs —
agree on classes with the same evidence set.
-/
namespace SLE.UnifyJoin
open SLE SLE.Containers SLE.Unify SLE.Merge SLE.MergeLaws SLE.Layout SLE.Join SLE.OrderFacts
set_option linter.unusedVariables false
set_option linter.unusedSimpArgs false

/-! ## 0. The input fragment -/

/-- Every judgement on a declared variable is an equality with a declared variable, a word, or
"no information". -/
def WordOnly (infs : Nat → List TE) (nvars : Nat) : Prop :=
  ∀ v < nvars, ∀ e ∈ infs v,
    (∃ id, e = .equal id ∧ id < nvars) ∨ (∃ w u, e = .word w u) ∨ e = .any

/-- The declared judgements, as a predicate (what `initForest_rep` is stated over). -/
def Decl (infs : Nat → List TE) (nvars : Nat) : Nat → TE → Prop :=
  fun a x => a < nvars ∧ x ∈ infs a

/-- `e` is a piece of non-`Equal` evidence declared on some member of the class of `v` in `f`. -/
def ClassEv (infs : Nat → List TE) (nvars : Nat) (f : Forest) (v : Nat) (e : TE) : Prop :=
  ∃ a, sameClass f a v ∧ a < nvars ∧ e ∈ infs a ∧ NoEq e = true

/-- `e` is a piece of non-`Equal` evidence declared on a variable that the declared equalities
connect to `v` (a property of the input alone). -/
def _root_.SLE.FragUnion.ClassEvIn (infs : Nat → List TE) (nvars v : Nat) (e : TE) : Prop :=
  ∃ a, Eqv (Decl infs nvars) a v ∧ a < nvars ∧ e ∈ infs a ∧ NoEq e = true

open SLE.FragUnion (ClassEvIn)

/-! ## 1. `merge` on words, `any` and `conflict` -/

/-- a word, no information, or a conflict: the closure of word evidence under `merge` -/
def WAC (e : TE) : Prop := (∃ w u, e = .word w u) ∨ e = .any ∨ e = .conflict

theorem WAC.pf {e : TE} (h : WAC e) : PF e = true := by
  rcases h with ⟨w, u, rfl⟩ | rfl | rfl <;> rfl

theorem WA.wac {e : TE} (h : WA e) : WAC e := by
  rcases h with h | h
  · exact .inl h
  · exact .inr (.inl h)

theorem toTE_wac (x : Option (Option Nat × WordUse)) : WAC (toTE x) := by
  rcases x with _ | ⟨w, u⟩
  · exact .inr (.inr rfl)
  · exact .inl ⟨w, u, rfl⟩

/-- Merging two such expressions emits no equality and stays in the class. -/
theorem outcome_wac {a b : TE} (ha : WAC a) (hb : WAC b) :
    (outcome a b).2 = [] ∧ WAC (outcome a b).1 := by
  rcases hb with hb' | rfl | rfl
  · rcases ha with ⟨w, u, rfl⟩ | rfl | rfl
    · obtain ⟨w', u', rfl⟩ := hb'
      rw [outcome_WW]; exact ⟨rfl, toTE_wac _⟩
    · rw [outcome_any_l _ (WAC.pf (.inl hb'))]; exact ⟨rfl, .inl hb'⟩
    · rw [outcome_conf_l _ (WAC.pf (.inl hb'))]; exact ⟨rfl, .inr (.inr rfl)⟩
  · rw [outcome_any_r _ ha.pf]; exact ⟨rfl, ha⟩
  · rw [outcome_conf_r _ ha.pf]; exact ⟨rfl, .inr (.inr rfl)⟩

/-- Folding such expressions emits no equality and stays in the class. -/
theorem fold_step_wac : ∀ (l : List TE) (cur : TE) (q : List (Nat × Nat)), WAC cur →
    (∀ e ∈ l, WAC e) → (l.foldl step (cur, q)).2 = q ∧ WAC (l.foldl step (cur, q)).1 := by
  intro l
  induction l with
  | nil => intro cur q hc _; exact ⟨rfl, hc⟩
  | cons x l ih =>
    intro cur q hc hl
    obtain ⟨o1, o2⟩ := outcome_wac hc (hl x List.mem_cons_self)
    rw [List.foldl_cons, step_eq, o1, List.append_nil]
    exact ih _ _ o2 (fun e he => hl e (List.mem_cons_of_mem _ he))

theorem foldMerge_wac {l : List TE} (hl : ∀ e ∈ l, WAC e) {j : TE} {q : List (Nat × Nat)}
    (h : foldMerge l = some (j, q)) : q = [] ∧ WAC j := by
  cases l with
  | nil => cases h
  | cons x l =>
    rw [foldMerge_cons] at h
    injection h with h
    have := fold_step_wac l x [] (hl x List.mem_cons_self)
      (fun e he => hl e (List.mem_cons_of_mem _ he))
    rw [h] at this
    exact this

theorem fcFold_wac (root next : Nat) : ∀ (rest : List TE) (cur : TE) (r : FCAcc), WAC cur →
    (∀ e ∈ rest, WAC e) → rest.foldlM (fcStep root) (cur, next, [], [], []) = .ok r →
    r = ((rest.foldl step (cur, [])).1, next, [], [], []) := by
  intro rest
  induction rest with
  | nil =>
    intro cur r _ _ h
    injection h with h
    exact h.symm
  | cons e rest ih =>
    intro cur r hc hr h
    have he := hr e List.mem_cons_self
    obtain ⟨m, hm, g1, g2, g3, g4, g5⟩ := merge_pf_indep cur e hc.pf he.pf root next
    obtain ⟨o1, o2⟩ := outcome_wac hc he
    rw [List.foldlM_cons] at h
    have hs : fcStep root (cur, next, [], [], []) e = .ok ((outcome cur e).1, next, [], [], []) := by
      simp only [fcStep, hm, g1, g2, g3, g4, g5, o1, List.append_nil]
    rw [hs] at h
    have hst : step (cur, []) e = ((outcome cur e).1, []) := by
      rw [step_eq, o1]; rfl
    rw [List.foldl_cons, hst]
    exact ih _ r o2 (fun x hx => hr x (List.mem_cons_of_mem _ hx)) h

/-- A class fold over words emits nothing, allocates nothing, and computes `foldMerge`. -/
theorem foldClass_wac (root next : Nat) (ev : List TE) (r : FCAcc) (hev : ∀ e ∈ ev, WAC e)
    (h : foldClass root ev next = .ok r) :
    ∃ j, r = (j, next, [], [], []) ∧ foldMerge ev = some (j, []) ∧ WAC j := by
  cases ev with
  | nil => cases h
  | cons first rest =>
    rw [foldClass_cons] at h
    have hf := hev _ List.mem_cons_self
    have hr := fun e he => hev e (List.mem_cons_of_mem _ he)
    obtain ⟨b, c⟩ := fold_step_wac rest first [] hf hr
    refine ⟨_, fcFold_wac root next rest first r hf hr h, ?_, c⟩
    rw [foldMerge_cons]
    congr 1
    exact Prod.ext rfl b

/-! ## 2. One round on word data -/

/-- every stored piece of evidence is a word, `any` or `conflict` -/
def WData (f : Forest) : Prop := ∀ k d, f.data.get k = some d → ∀ e ∈ d, WAC e

theorem WData.pf {f : Forest} (h : WData f) : PFData f :=
  fun k d hk e he => (h k d hk e he).pf

/-- The fold over the classes on word data: nothing is emitted or allocated, and the cell of a
class with evidence ends up holding the `foldMerge` of that evidence (as `o.tes` enumerates it). -/
theorem loop_word {o : Orders} (ho : OrdersOk o) (l : List (Nat × List TE)) (acc acc' : RoundAcc)
    (hnd : (l.map (·.1)).Nodup) (hi : DS.Inv acc.forest)
    (hD : ∀ p ∈ l, acc.forest.data.get p.1 = some p.2 ∧ DS.rootOf acc.forest p.1 = p.1)
    (hw : ∀ p ∈ l, ∀ e ∈ p.2, WAC e) (h : l.foldlM (roundStep o) acc = .ok acc') :
    acc'.next = acc.next ∧ acc'.eqs = acc.eqs ∧ acc'.judgements = acc.judgements ∧
      acc'.newVars = acc.newVars ∧
      ∀ k, (∃ p ∈ l, p.1 = k ∧ p.2 ≠ [] ∧ ∃ j, foldMerge (o.tes p.2) = some (j, []) ∧
              acc'.forest.data.get k = some [j] ∧ WAC j) ∨
        ((∀ p ∈ l, p.1 = k → p.2 = []) ∧ acc'.forest.data.get k = acc.forest.data.get k) := by
  have hev : ∀ p ∈ l, ∀ e ∈ o.tes p.2, WAC e := fun p hp e he =>
    hw p hp e ((ho.2.1 p.2).mem_iff.mp he)
  have hemit := foldlM_rel (roundStep o) (fun _ => True)
    (fun a b => b.next = a.next ∧ b.eqs = a.eqs ∧ b.judgements = a.judgements ∧
      b.newVars = a.newVars) (fun _ _ => True) (fun _ => ⟨rfl, rfl, rfl, rfl⟩)
    (fun _ _ _ h1 h2 => ⟨h2.1.trans h1.1, h2.2.1.trans h1.2.1, h2.2.2.1.trans h1.2.2.1,
      h2.2.2.2.trans h1.2.2.2⟩) (fun _ _ _ _ _ => trivial) l
    (fun s x s' hx _ hs => by
      refine ⟨trivial, ?_, trivial⟩
      rcases roundStep_cases hs with ⟨_, rfl⟩ | ⟨_, cur, nx, eqs, js, nvs, f', h1, _, rfl⟩
      · exact ⟨rfl, rfl, rfl, rfl⟩
      · obtain ⟨j, hr, _⟩ := foldClass_wac x.1 s.next (o.tes x.2) _ (hev x hx) h1
        simp only [Prod.mk.injEq] at hr
        obtain ⟨_, rfl, rfl, rfl, rfl⟩ := hr
        exact ⟨rfl, List.append_nil _, List.append_nil _, List.append_nil _⟩)
    acc acc' trivial h
  refine ⟨hemit.2.1.1, hemit.2.1.2.1, hemit.2.1.2.2.1, hemit.2.1.2.2.2, fun k => ?_⟩
  rcases loop_cells l acc acc' hnd hi hD h k with ⟨p, hp, rfl, hne, r, nx, hr, hc⟩ | c
  · obtain ⟨j, rfl, hfm, hj⟩ := foldClass_wac p.1 nx (o.tes p.2) r (hev p hp) hr
    exact .inl ⟨p, hp, rfl, hne, j, hfm, hc, hj⟩
  · exact .inr c

/-- `sets` leaves every cell's data (read with the empty default) as it was. -/
theorem sets_dataAt {f : Forest} (hi : DS.Inv f) (k : Nat) :
    DS.dataAt setM (f.sets setM).1 k = DS.dataAt setM f k := by
  obtain ⟨f1, l, e, _, _, _, _, _, _, i7⟩ := DS.sets_spec setM f hi
  rw [e]; simp only []
  unfold DS.dataAt
  rw [i7]
  split <;> rfl

theorem sets_wdata {f : Forest} (hi : DS.Inv f) (hw : WData f) : WData (f.sets setM).1 := by
  obtain ⟨f1, l, e, _, _, _, _, _, _, i7⟩ := DS.sets_spec setM f hi
  rw [e]; simp only []
  intro k d hk x hx
  rw [i7] at hk
  split at hk
  · injection hk with hk; subst hk
    exact dataAt_forall hw k x hx
  · exact hw k d hk x hx

theorem sets_present {f : Forest} (hi : DS.Inv f) (k : Nat)
    (hk : f.reps.get k = some k ∨ (f.data.get k).isSome) :
    ((f.sets setM).1.data.get k).isSome := by
  obtain ⟨f1, l, e, _, _, _, _, _, _, i7⟩ := DS.sets_spec setM f hi
  rw [e]; simp only []
  rw [i7]
  split
  · rfl
  · rcases hk with hk | hk
    · contradiction
    · exact hk

/-- `f` is `f0` with every cell's evidence set folded into one expression; roots and cells that
held a set still hold one. -/
structure Folded (f0 f : Forest) : Prop where
  roots : SameRoots f0 f
  cells : ∀ k, (DS.dataAt setM f0 k = [] ∧ DS.dataAt setM f k = []) ∨
    (∃ l j, l.Perm (DS.dataAt setM f0 k) ∧ foldMerge l = some (j, []) ∧
      DS.dataAt setM f k = [j])
  present : ∀ k, (f0.reps.get k = some k ∨ (f0.data.get k).isSome) → (f.data.get k).isSome

/-- What one round does to a forest holding word data: no fault, no variable allocated, the
partition unchanged, and every cell's evidence set folded (in the order `o.tes` enumerates it)
into one expression. -/
theorem round_word {o : Orders} (ho : OrdersOk o) {f : Forest} (h : UInv f) (hw : WData f)
    (next counter : Nat) :
    ∃ acc, round o f next counter = .ok acc ∧ acc.next = next ∧ UInv acc.forest ∧
      WData acc.forest ∧ Single acc.forest ∧ Folded f acc.forest ∧
      (Single f → acc.progress = false) := by
  obtain ⟨acc0, e0, i0, r0⟩ := roundLoop_inv ho h next counter
  obtain ⟨s1, s2, s3, s4, s5⟩ := uinv_sets h
  have hw1 := sets_wdata h.1 hw
  obtain ⟨g3, g4, g5, g6, gc⟩ := loop_word ho (f.sets setM).2
    { forest := (f.sets setM).1, next := next, counter := counter } acc0 s5 s1.1
    (fun p hp => ⟨(s3 p hp).2.1, (s2 p.1).trans (s3 p hp).2.2⟩)
    (fun p hp => hw1 p.1 p.2 (s3 p hp).2.1) e0
  have er : round o f next counter = .ok acc0 := by
    rw [round_eq, e0]; exact roundTail_nil ho acc0 g4 g5 g6
  -- a cell held evidence `d` and now holds its fold, or held nothing / the empty set and is
  -- unchanged
  have hcell : ∀ k, (∃ d j, (f.sets setM).1.data.get k = some d ∧
        foldMerge (o.tes d) = some (j, []) ∧ acc0.forest.data.get k = some [j] ∧ WAC j) ∨
      (((f.sets setM).1.data.get k = none ∨ (f.sets setM).1.data.get k = some []) ∧
        acc0.forest.data.get k = (f.sets setM).1.data.get k) := by
    intro k
    rcases gc k with ⟨p, hp, rfl, _, j, hfm, hd, hj⟩ | ⟨hnil, hsame⟩
    · exact .inl ⟨p.2, j, (s3 p hp).2.1, hfm, hd, hj⟩
    · refine .inr ⟨?_, hsame⟩
      cases hg : (f.sets setM).1.data.get k with
      | none => exact .inl rfl
      | some d => exact .inr (congrArg some (hnil (k, d) (s4 k d hg) rfl))
  have hnew : ∀ k d, acc0.forest.data.get k = some d → d = [] ∨ ∃ j, d = [j] ∧ WAC j := by
    intro k d hk
    rcases hcell k with ⟨_, j, _, _, hd, hj⟩ | ⟨h0 | h0, hsame⟩
    · rw [hd] at hk; injection hk with hk; exact .inr ⟨j, hk.symm, hj⟩
    · rw [hsame, h0] at hk; cases hk
    · rw [hsame, h0] at hk; injection hk with hk; exact .inl hk.symm
  refine ⟨acc0, er, g3, i0.1, ?_, ?_, ⟨r0, ?_, ?_⟩, (round_pf ho h hw.pf er).2.2.2⟩
  · intro k d hk x hx
    rcases hnew k d hk with rfl | ⟨j, rfl, hj⟩
    · cases hx
    · rw [List.mem_singleton.mp hx]; exact hj
  · intro k d hk
    rcases hnew k d hk with rfl | ⟨j, rfl, _⟩
    · exact Nat.zero_le _
    · exact Nat.le_refl _
  · intro k
    rw [← sets_dataAt h.1 k]
    unfold DS.dataAt
    rcases hcell k with ⟨d, j, h0, hfm, hd, _⟩ | ⟨h0 | h0, hsame⟩
    · rw [h0, hd]; exact .inr ⟨o.tes d, j, ho.2.1 _, hfm, rfl⟩
    · rw [hsame, h0]; exact .inl ⟨rfl, rfl⟩
    · rw [hsame, h0]; exact .inl ⟨rfl, rfl⟩
  · intro k hk
    have := sets_present h.1 k hk
    rcases hcell k with ⟨_, _, _, _, hd, _⟩ | ⟨_, hsame⟩
    · rw [hd]; rfl
    · rw [hsame]; exact this

/-! ## 3. The loop: at most two rounds -/

theorem foldMerge_single (x : TE) : foldMerge [x] = some (x, []) := rfl

/-- Folding single-piece data changes no cell, so a second fold adds nothing to a first. -/
theorem Folded.trans {f0 f1 f2 : Forest} (h1 : Folded f0 f1) (h2 : Folded f1 f2)
    (hs : Single f1) : Folded f0 f2 := by
  have hd : ∀ k, DS.dataAt setM f2 k = DS.dataAt setM f1 k := by
    intro k
    rcases h2.cells k with ⟨e1, e2⟩ | ⟨l, j, hp, hfm, hd⟩
    · rw [e1, e2]
    · have hlen := dataAt_single hs k
      have hl := hp.length_eq
      match l, hfm, hp, hl with
      | [x], hfm, hp, _ =>
        rw [foldMerge_single] at hfm
        injection hfm with hfm
        injection hfm with hfm _
        subst hfm
        rw [hd]
        exact (List.perm_singleton.mp hp.symm).symm
      | _ :: _ :: _, _, _, hl => simp only [List.length_cons] at hl; omega
  refine ⟨fun w => by rw [h2.roots w]; exact h1.roots w, fun k => ?_,
    fun k hk => h2.present k (.inr (h1.present k hk))⟩
  rw [hd k]
  exact h1.cells k

/-- With word data the loop stops after at most two rounds, having folded every class once. -/
theorem unifyLoop_word {o : Orders} (ho : OrdersOk o) {f0 : Forest} (h : UInv f0) (hw : WData f0)
    (fuel next counter rounds : Nat) (hfuel : 2 ≤ fuel) :
    ∃ f r, unifyLoop o fuel f0 next counter rounds = .ok (f, next, r) ∧ rounds < r ∧
      r ≤ rounds + 2 ∧ Folded f0 f := by
  obtain ⟨fuel, rfl⟩ : ∃ k, fuel = k + 2 := ⟨fuel - 2, by omega⟩
  obtain ⟨acc1, e1, a1, a2, a3, a4, a5, _⟩ := round_word ho h hw next counter
  rw [unifyLoop, e1]
  simp only []
  cases hp : acc1.progress with
  | false =>
    simp only [Bool.false_eq_true, if_false]
    exact ⟨acc1.forest, rounds + 1, by rw [a1], by omega, by omega, a5⟩
  | true =>
    simp only [if_true]
    obtain ⟨acc2, e2, b1, _, _, _, b5, b6⟩ := round_word ho a2 a3 acc1.next acc1.counter
    rw [unifyLoop, e2]
    simp only [b6 a4, Bool.false_eq_true, if_false]
    exact ⟨acc2.forest, rounds + 1 + 1, by rw [b1, a1], by omega, by omega, a5.trans b5 a4⟩

/-- More fuel never changes a result. -/
theorem unifyLoop_fuel_mono (o : Orders) : ∀ (fuel : Nat) (f : Forest) (next counter rounds : Nat)
    (x : Forest × Nat × Nat), unifyLoop o fuel f next counter rounds = .ok x →
    ∀ k, unifyLoop o (fuel + k) f next counter rounds = .ok x := by
  intro fuel
  induction fuel with
  | zero => intro f next counter rounds x h; simp [unifyLoop] at h
  | succ fuel ih =>
    intro f next counter rounds x h k
    have e : fuel + 1 + k = (fuel + k) + 1 := by omega
    rw [e]
    rw [unifyLoop] at h ⊢
    cases hr : round o f next counter with
    | error e => rw [hr] at h; cases h
    | ok acc =>
      rw [hr] at h
      simp only [] at h ⊢
      cases hp : acc.progress with
      | true =>
        rw [hp] at h
        simp only [if_true] at h ⊢
        exact ih _ _ _ _ x h k
      | false =>
        rw [hp] at h
        simp only [Bool.false_eq_true, if_false] at h ⊢
        exact h

/-! ## 4. The initial forest of a word-only input -/

theorem nodup_setUnion {a : List TE} (ha : a.Nodup) (b : List TE) : (setUnion a b).Nodup := by
  unfold setUnion
  induction b generalizing a with
  | nil => exact ha
  | cons e b ih => rw [List.foldl_cons]; exact ih (nodup_setInsert ha e)

/-- every stored inference set is duplicate free -/
def DataNodup (f : Forest) : Prop := ∀ k d, f.data.get k = some d → d.Nodup

theorem dataAt_nodup {f : Forest} (h : DataNodup f) (k : Nat) : (DS.dataAt setM f k).Nodup := by
  unfold DS.dataAt
  cases hg : f.data.get k with
  | none => exact List.nodup_nil
  | some d => exact h k d hg

theorem foldlM_inv {α σ ε : Type} (step : σ → α → Except ε σ) (I : σ → Prop)
    (hstep : ∀ s x s', I s → step s x = .ok s' → I s') (l : List α) (s s' : σ) (hs : I s)
    (h : l.foldlM step s = .ok s') : I s' :=
  (foldlM_rel step I (fun _ _ => True) (fun _ _ => True) (fun _ => trivial)
    (fun _ _ _ _ _ => trivial) (fun _ _ _ _ _ => trivial) l
    (fun s x s' _ hs e => ⟨hstep s x s' hs e, trivial, trivial⟩) s s' hs h).1

/-- What holds of the forest of bare variables and is preserved by `initStep` holds of the forest
`initForest` returns. -/
theorem initForest_induct {o : Orders} {vars : List Nat} {infs : Nat → List TE} {f : Forest}
    (I : Forest → Prop) (h0 : I ((o.vars vars).foldl (fun f v => f.insert v) {}))
    (hstep : ∀ v (g g' : Forest) e, UInv g → I g → initStep v g e = .ok g' → I g')
    (h : initForest o vars infs = .ok f) : I f := by
  rw [initForest_eq] at h
  have hs : ∀ v (g : Forest) e (g' : Forest), UInv g ∧ I g → initStep v g e = .ok g' →
      UInv g' ∧ I g' := by
    intro v g e g' hg hs
    obtain ⟨g'', e1, u1, _⟩ := initStep_spec hg.1 v e
    rw [hs] at e1; injection e1 with e1; subst e1
    exact ⟨u1, hstep v g _ e hg.1 hg.2 hs⟩
  exact (foldlM_inv _ (fun f => UInv f ∧ I f)
    (fun g v g' hg hf => foldlM_inv (initStep v) _ (hs v) _ g g' hg hf) _ _ f
    ⟨(insertAll_uinv _ uinv_empty).1, h0⟩ h).2

theorem initStep_nodup {v : Nat} {f f' : Forest} {e : TE} (hi : UInv f) (hn : DataNodup f)
    (h : initStep v f e = .ok f') : DataNodup f' := by
  rcases initStep_cases h with ⟨id, rfl, hun⟩ | ⟨hne, hadd⟩
  · obtain ⟨f'', e, i1, i2, i3, i4⟩ := DS.union_spec setM f v id hi.1
    rw [hun] at e; injection e with e; subst e
    intro k d hk
    by_cases hab : DS.rootOf f v = DS.rootOf f id
    · rw [(i3 hab).2] at hk; exact hn k d hk
    · rw [(i4 hab).2] at hk
      split at hk
      · injection hk with hk; subst hk
        exact nodup_setUnion (dataAt_nodup hn _) _
      · split at hk
        · cases hk
        · exact hn k d hk
  · obtain ⟨f'', e1, _, _, u3⟩ := uinv_addData hi v [e] (by simpa using hne)
    rw [hadd] at e1; injection e1 with e1; subst e1
    intro k d hk
    rw [u3] at hk
    split at hk
    · injection hk with hk; subst hk
      exact nodup_setUnion (dataAt_nodup hn _) _
    · exact hn k d hk

theorem initForest_nodup {o : Orders} {vars : List Nat} {infs : Nat → List TE} {f : Forest}
    (h : initForest o vars infs = .ok f) : DataNodup f := by
  refine initForest_induct DataNodup (fun k d hk => ?_)
    (fun v g g' e hu hn hs => initStep_nodup hu hn hs) h
  rw [(insertAll_uinv (o.vars vars) uinv_empty).2.2,
    show ({} : Forest).data.get k = none from DS.get_empty k] at hk
  cases hk

theorem insertAll_mem : ∀ (l : List Nat) {f : Forest}, DS.Inv f → ∀ w, (f.mem w = true ∨ w ∈ l) →
    (l.foldl (fun (f : Forest) v => f.insert v) f).mem w = true := by
  intro l
  induction l with
  | nil => intro f _ w hw; rcases hw with hw | hw; exact hw; cases hw
  | cons v l ih =>
    intro f hi w hw
    rw [List.foldl_cons]
    obtain ⟨i1, _, _, i4, _⟩ := DS.insert_spec f v hi
    apply ih i1
    rcases hw with hw | hw
    · left; rw [i4, hw]; rfl
    · rcases List.mem_cons.mp hw with rfl | hw
      · left; rw [i4]; simp
      · exact .inr hw

theorem initStep_mem_mono {v : Nat} {f f' : Forest} {e : TE} (hu : UInv f)
    (h : initStep v f e = .ok f') : ∀ w, f.mem w = true → f'.mem w = true := by
  intro w hw
  rcases initStep_cases h with ⟨id, rfl, hun⟩ | ⟨_, hadd⟩
  · obtain ⟨f'', e2, _, i2, _, _⟩ := DS.union_spec setM f v id hu.1
    rw [hun] at e2; injection e2 with e2; subst e2
    rw [i2, hw]; rfl
  · obtain ⟨f'', e2, _, _, _, i4⟩ := DS.addData_spec setM f v [e] hu.1
    rw [hadd] at e2; injection e2 with e2; subst e2
    rw [i4, hw]; rfl

theorem initForest_members {o : Orders} (ho : OrdersOk o) {vars : List Nat} {infs : Nat → List TE}
    {f : Forest} (h : initForest o vars infs = .ok f) : ∀ v ∈ vars, f.mem v = true :=
  initForest_induct (fun f => ∀ w ∈ vars, f.mem w = true)
    (fun w hw => insertAll_mem _ DS.inv_empty w (.inr ((ho.1 _).mem_iff.mpr hw)))
    (fun v g g' e hu hg hs w hw => initStep_mem_mono hu hs w (hg w hw)) h

theorem initForest_decl {o : Orders} (ho : OrdersOk o) {nvars : Nat} {infs : Nat → List TE}
    {f0 : Forest} (h : initForest o (List.range nvars) infs = .ok f0) :
    Rep f0 (Decl infs nvars) := by
  obtain ⟨f, e, r⟩ := initForest_rep ho (List.range nvars) infs
  rw [h] at e; injection e with e; subst e
  exact r.congr (fun a x => by simp [Decl, List.mem_range])

/-- The declared non-`Equal` evidence of a word-only input is words and `any`. -/
theorem decl_wa {infs : Nat → List TE} {nvars : Nat} (hw : WordOnly infs nvars) {a : Nat}
    {e : TE} (h : Decl infs nvars a e) (hne : NoEq e = true) : WA e := by
  rcases hw a h.1 e h.2 with ⟨id, rfl, _⟩ | h | h
  · cases hne
  · exact .inl h
  · exact .inr h

/-- The initial forest of a word-only input holds words only. -/
theorem initForest_wdata {nvars : Nat} {infs : Nat → List TE} (hw : WordOnly infs nvars)
    {f0 : Forest} (r : Rep f0 (Decl infs nvars)) (hu : UInv f0) : WData f0 := by
  intro k d hk x hx
  have hev : x ∈ evidence f0 k := by
    unfold evidence DS.dataAt
    rw [(hu.2.2 k d hk).2, hk]; exact hx
  obtain ⟨w, hd, hne, _⟩ := (r.data k x).mp hev
  exact WA.wac (decl_wa hw hd hne)

/-! ## 5. The closed form of the result -/

/-- The result of unifying a word-only input: the classes are the equivalence closure of the
declared equalities; the class of `v` holds nothing if no member has non-`Equal` evidence, and
otherwise the one expression `foldMerge` makes of a duplicate-free enumeration of all the
non-`Equal` evidence of all its members; every declared variable's root holds a set. -/
structure WordResult (infs : Nat → List TE) (nvars : Nat) (f : Forest) : Prop where
  part : ∀ a b, DS.rootOf f a = DS.rootOf f b ↔ Eqv (Decl infs nvars) a b
  fold : ∀ v, ((∀ e, ¬ ClassEvIn infs nvars v e) ∧ evidence f v = []) ∨
    (∃ l j, (∀ e, e ∈ l ↔ ClassEvIn infs nvars v e) ∧ l.Nodup ∧
      foldMerge l = some (j, []) ∧ evidence f v = [j])
  present : ∀ v, v < nvars → (f.data.get (DS.rootOf f v)).isSome

/-- The evidence set of a class of the input is what the initial forest holds for it. -/
theorem classEvIn_iff_init {nvars : Nat} {infs : Nat → List TE} {f0 : Forest}
    (r0 : Rep f0 (Decl infs nvars)) (v : Nat) (e : TE) :
    ClassEvIn infs nvars v e ↔ e ∈ evidence f0 v := by
  rw [r0.data]
  constructor
  · rintro ⟨a, hav, han, hea, hne⟩; exact ⟨a, ⟨han, hea⟩, hne, hav⟩
  · rintro ⟨w, ⟨hwn, hew⟩, hne, hwv⟩; exact ⟨w, hwv, hwn, hew, hne⟩

/-- In a result the class evidence read off the forest is the class evidence of the input. -/
theorem WordResult.classEv {infs : Nat → List TE} {nvars : Nat} {f : Forest}
    (wr : WordResult infs nvars f) (v : Nat) (e : TE) :
    ClassEv infs nvars f v e ↔ ClassEvIn infs nvars v e := by
  unfold ClassEv ClassEvIn sameClass
  constructor
  · rintro ⟨a, h1, h2⟩; exact ⟨a, (wr.part a v).mp h1, h2⟩
  · rintro ⟨a, h1, h2⟩; exact ⟨a, (wr.part a v).mpr h1, h2⟩

theorem wordResult_of_folded {infs : Nat → List TE} {nvars : Nat} {f0 f : Forest}
    (r0 : Rep f0 (Decl infs nvars)) (hu : UInv f0) (hnd : DataNodup f0)
    (hm : ∀ v, v < nvars → f0.mem v = true) (hf : Folded f0 f) : WordResult infs nvars f := by
  have hpart : ∀ a b, DS.rootOf f a = DS.rootOf f b ↔ Eqv (Decl infs nvars) a b := by
    intro a b
    rw [hf.roots a, hf.roots b]
    exact r0.part a b
  have hce : ∀ v e, e ∈ evidence f0 v ↔ ClassEvIn infs nvars v e :=
    fun v e => (classEvIn_iff_init r0 v e).symm
  refine ⟨hpart, fun v => ?_, fun v hv => ?_⟩
  · have hev : evidence f v = DS.dataAt setM f (DS.rootOf f0 v) := by
      unfold evidence; rw [hf.roots v]
    have hev0 : evidence f0 v = DS.dataAt setM f0 (DS.rootOf f0 v) := rfl
    rcases hf.cells (DS.rootOf f0 v) with ⟨h1, h2⟩ | ⟨l, j, hp, hfm, hd⟩
    · left
      refine ⟨fun e he => ?_, by rw [hev, h2]⟩
      have := (hce v e).mpr he
      rw [hev0, h1] at this
      cases this
    · right
      refine ⟨l, j, fun e => ?_, hp.nodup_iff.mpr (dataAt_nodup hnd _), hfm, by rw [hev, hd]⟩
      rw [hp.mem_iff, ← hev0]
      exact hce v e
  · rw [hf.roots v]
    exact hf.present _ (.inl ((DS.isRoot_iff hu.1 _).mpr
      ⟨mem_rootOf hu.1 (hm v hv), DS.rootOf_idem hu.1 v⟩))

/-- Every run on a word-only input that has fuel for two rounds returns, having allocated no
variable, run one or two rounds and produced the closed form. -/
theorem unify_word_runs {o : Orders} (ho : OrdersOk o) {nvars : Nat} {infs : Nat → List TE}
    (hw : WordOnly infs nvars) (fuel : Nat) (hfuel : 2 ≤ fuel) :
    ∃ f r, unify o fuel nvars infs = .ok (f, nvars, r) ∧ 1 ≤ r ∧ r ≤ 2 ∧
      WordResult infs nvars f := by
  obtain ⟨f0, e0, -⟩ := initForest_spec o (List.range nvars) infs
  have r0 := initForest_decl ho e0
  have hu := initForest_inv ho e0
  obtain ⟨f, r, e, h1, h2, h3⟩ :=
    unifyLoop_word ho hu (initForest_wdata hw r0 hu) fuel nvars 0 0 hfuel
  refine ⟨f, r, ?_, by omega, by omega, wordResult_of_folded r0 hu (initForest_nodup e0)
    (fun v hv => initForest_members ho e0 v (List.mem_range.mpr hv)) h3⟩
  unfold unify; rw [e0]; exact e

/-- … and so has every run that returns, whatever its fuel: more fuel changes no result. -/
theorem unify_word_of_ok {o : Orders} (ho : OrdersOk o) {nvars : Nat} {infs : Nat → List TE}
    (hw : WordOnly infs nvars) {fuel : Nat} {f : Forest} {n r : Nat}
    (h : unify o fuel nvars infs = .ok (f, n, r)) :
    n = nvars ∧ 1 ≤ r ∧ r ≤ 2 ∧ WordResult infs nvars f := by
  obtain ⟨f', r', e, g1, g2, g3⟩ := unify_word_runs ho hw (fuel + 2) (by omega)
  unfold unify at h e
  cases e0 : initForest o (List.range nvars) infs with
  | error x => rw [e0] at h; cases h
  | ok f0 =>
    rw [e0] at h e
    simp only [] at h e
    rw [unifyLoop_fuel_mono o fuel f0 nvars 0 0 _ h 2] at e
    injection e with e
    simp only [Prod.mk.injEq] at e
    obtain ⟨rfl, rfl, rfl⟩ := e
    exact ⟨rfl, g1, g2, g3⟩

/-- The closed form of a given successful run. -/
theorem wordResult {o : Orders} (ho : OrdersOk o) {nvars : Nat} {infs : Nat → List TE}
    (hw : WordOnly infs nvars) {fuel : Nat} {f : Forest} {n r : Nat}
    (h : unify o fuel nvars infs = .ok (f, n, r)) : WordResult infs nvars f :=
  (unify_word_of_ok ho hw h).2.2.2

/-! ## 6. Consequences for the evidence of a class -/

/-- The evidence of a class of a word-only input is words and `any`. -/
theorem classEvIn_wa {infs : Nat → List TE} {nvars : Nat} (hw : WordOnly infs nvars) {v : Nat}
    {e : TE} (h : ClassEvIn infs nvars v e) : WA e := by
  obtain ⟨a, _, han, hea, hne⟩ := h
  exact decl_wa hw ⟨han, hea⟩ hne

/-- Two word-only runs (any inputs, orders, fuels) on classes with the same evidence set:
the closed forms side by side. -/
theorem ev_general {o o' : Orders} (ho : OrdersOk o) (ho' : OrdersOk o') {nvars nvars' : Nat}
    {infs infs' : Nat → List TE} (hw : WordOnly infs nvars) (hw' : WordOnly infs' nvars')
    {fuel fuel' : Nat} {f f' : Forest} {n r n' r' : Nat}
    (h : unify o fuel nvars infs = .ok (f, n, r))
    (h' : unify o' fuel' nvars' infs' = .ok (f', n', r')) (v v' : Nat)
    (hce : ∀ e, ClassEvIn infs nvars v e ↔ ClassEvIn infs' nvars' v' e) :
    ((∀ e, ¬ ClassEvIn infs nvars v e) ∧ evidence f v = [] ∧ evidence f' v' = []) ∨
    (∃ l l' j j', (∀ e, e ∈ l ↔ ClassEvIn infs nvars v e) ∧ l.Perm l' ∧ l.Nodup ∧
      foldMerge l = some (j, []) ∧ foldMerge l' = some (j', []) ∧
      evidence f v = [j] ∧ evidence f' v' = [j']) := by
  -- a non-empty enumeration on one side contradicts an empty class on the other
  have hne : ∀ {l : List TE} {j : TE}, foldMerge l = some (j, []) → ∃ x, x ∈ l := by
    intro l j hfm
    cases l with
    | nil => cases hfm
    | cons x _ => exact ⟨x, List.mem_cons_self⟩
  rcases (wordResult ho hw h).fold v with ⟨h1, h2⟩ | ⟨l, j, hl, hnd, hfm, hd⟩ <;>
    rcases (wordResult ho' hw' h').fold v' with ⟨h1', h2'⟩ | ⟨l', j', hl', hnd', hfm', hd'⟩
  · exact .inl ⟨h1, h2, h2'⟩
  · obtain ⟨x, hx⟩ := hne hfm'
    exact absurd ((hce x).mpr ((hl' x).mp hx)) (h1 x)
  · obtain ⟨x, hx⟩ := hne hfm
    exact absurd ((hce x).mp ((hl x).mp hx)) (h1' x)
  · refine .inr ⟨l, l', j, j', hl, ?_, hnd, hfm, hfm', hd, hd'⟩
    apply (List.perm_ext_iff_of_nodup hnd hnd').mpr
    intro e
    rw [hl e, hl' e]
    exact hce e

/-- `OutEq` on outcomes whose expression is a word, `any` or `conflict` is equality. -/
theorem outEq_wac {j j' : TE} {q q' : List (Nat × Nat)} (hj : WAC j)
    (h : OutEq (j, q) (j', q')) : j = j' := by
  rcases h with ⟨h1, h2⟩ | ⟨_, _, _, h4⟩
  · simp only at h1 h2; rw [h1, h2]
  · simp only at h4
    rcases hj with ⟨w, u, rfl⟩ | rfl | rfl <;> simpa [ExprEqMod] using h4

/-- With word-only evidence the fold of a class is the same for every enumeration of its evidence
set (no absorbing constructor is present, hence no bad triple: `foldMerge_perm`) — so two runs
leave the same evidence at classes with the same evidence set, contradictory evidence included. -/
theorem ev_eq {o o' : Orders} (ho : OrdersOk o) (ho' : OrdersOk o') {nvars nvars' : Nat}
    {infs infs' : Nat → List TE} (hw : WordOnly infs nvars) (hw' : WordOnly infs' nvars')
    {fuel fuel' : Nat} {f f' : Forest} {n r n' r' : Nat}
    (h : unify o fuel nvars infs = .ok (f, n, r))
    (h' : unify o' fuel' nvars' infs' = .ok (f', n', r')) (v v' : Nat)
    (hce : ∀ e, ClassEvIn infs nvars v e ↔ ClassEvIn infs' nvars' v' e) :
    evidence f v = evidence f' v' := by
  rcases ev_general ho ho' hw hw' h h' v v' hce with
    ⟨_, e1, e2⟩ | ⟨l, l', j, j', hl, hp, _, h1, h2, h3, h4⟩
  · rw [e1, e2]
  · have hwa : ∀ e ∈ l, WA e := fun e he => classEvIn_wa hw ((hl e).mp he)
    have hne : l ≠ [] := by intro hn; rw [hn] at h1; cases h1
    obtain ⟨o₁, o₂, g1, g2, g3⟩ := foldMerge_perm (fun e he => (hwa e he).pf)
      (noBadTriple_of_no_absorber l (fun e he => by
        rcases hwa e he with ⟨w, u, rfl⟩ | rfl <;> rfl)) hp hne
    rw [h1] at g1; rw [h2] at g2
    injection g1 with g1; injection g2 with g2
    subst g1 g2
    rw [h3, h4, outEq_wac (foldMerge_wac (fun e he => WA.wac (hwa e he)) h1).2 g3]

/-- **Compatible evidence joins.** If all the evidence of the class of `v` (spread over its members) is below some
`T`, the class resolves — for every choice of iteration orders — to one non-conflict `j` that is
above every piece of evidence of every member and below `T`. -/
theorem unify_compatible_joins {o : Orders} (ho : OrdersOk o) {nvars : Nat} {infs : Nat → List TE}
    (hw : WordOnly infs nvars) {fuel : Nat} {f : Forest} {n r : Nat}
    (h : unify o fuel nvars infs = .ok (f, n, r)) (v : Nat) (T : TE)
    (hex : ∃ e, ClassEv infs nvars f v e)
    (hT : ∀ e, ClassEv infs nvars f v e → wordLe e T = true) :
    ∃ j, evidence f v = [j] ∧ j ≠ .conflict ∧ ((∃ w u, j = .word w u) ∨ j = .any) ∧
      (∀ e, ClassEv infs nvars f v e → wordLe e j = true) ∧ wordLe j T = true := by
  have wr := wordResult ho hw h
  rcases wr.fold v with ⟨h1, _⟩ | ⟨l, j, hl0, _, hfm, hd⟩
  · obtain ⟨e, he⟩ := hex
    exact absurd ((wr.classEv v e).mp he) (h1 e)
  · have hl := fun e => (hl0 e).trans (wr.classEv v e).symm
    have hne : l ≠ [] := by
      intro hnil; rw [hnil] at hfm; cases hfm
    obtain ⟨j', g1, g2, g3, g4, g5⟩ := consistent_words_join' l T hne
      (fun e he => classEvIn_wa hw ((hl0 e).mp he)) (fun e he => hT e ((hl e).mp he))
    rw [hfm] at g1
    injection g1 with g1
    injection g1 with g1 _
    subst g1
    exact ⟨j, hd, g3, g2, fun e he => g4 e ((hl e).mpr he), g5⟩

/-- **Contradictory evidence conflicts.** If the evidence of two members of the class of `v` contains a conflicting pair,
the class resolves to `conflict` — for every choice of iteration orders. -/
theorem unify_contradiction_conflicts {o : Orders} (ho : OrdersOk o) {nvars : Nat} {infs : Nat → List TE}
    (hw : WordOnly infs nvars) {fuel : Nat} {f : Forest} {n r : Nat}
    (h : unify o fuel nvars infs = .ok (f, n, r)) (v : Nat) (ea eb : TE)
    (ha : ClassEv infs nvars f v ea) (hb : ClassEv infs nvars f v eb)
    (hc : conflicts ea eb = true) : evidence f v = [.conflict] := by
  have wr := wordResult ho hw h
  rcases wr.fold v with ⟨h1, _⟩ | ⟨l, j, hl0, _, hfm, hd⟩
  · exact absurd ((wr.classEv v ea).mp ha) (h1 ea)
  · have hl := fun e => (hl0 e).trans (wr.classEv v e).symm
    have hwa : ∀ e ∈ l, WA e := fun e he => classEvIn_wa hw ((hl0 e).mp he)
    obtain ⟨q, hq⟩ := contradiction_conflicts l (fun e he => (hwa e he).pf)
      (fun e he => by rcases hwa e he with ⟨w, u, rfl⟩ | rfl <;> rfl)
      ⟨ea, (hl ea).mpr ha, eb, (hl eb).mpr hb, hc⟩
    rw [hfm] at hq
    injection hq with hq
    injection hq with hq _
    rw [hd, hq]

/-- The members view of `ClassEv`: it is a property of the partition (`WordResult.part`) and the input only. -/
theorem classEv_def {infs : Nat → List TE} {nvars : Nat} {f : Forest} {v : Nat} {e : TE} :
    ClassEv infs nvars f v e ↔
      ∃ a, DS.rootOf f a = DS.rootOf f v ∧ a < nvars ∧ e ∈ infs a ∧ NoEq e = true := Iff.rfl

/-! ### Non-vacuity -/

/-- three variables: `0 = 1` (declared on both sides), `0 ∋ word(?, numeric)`,
`1 ∋ word(160, address)`, `2 ∋ word(8, bool)` -/
def exInfs : Nat → List TE
  | 0 => [.equal 1, .word none .numeric]
  | 1 => [.equal 0, .word (some 160) .address]
  | 2 => [.word (some 8) .bool]
  | _ => []

theorem exInfs_wordOnly : WordOnly exInfs 3 := by
  intro v hv e he
  have : v = 0 ∨ v = 1 ∨ v = 2 := by omega
  rcases this with rfl | rfl | rfl <;> simp [exInfs] at he <;> rcases he with rfl | rfl <;> simp

example : ∃ f, unify idOrders 2 3 exInfs = .ok (f, 3, 2) ∧
    evidence f 0 = [.word (some 160) .address] ∧ evidence f 1 = [.word (some 160) .address] ∧
    evidence f 2 = [.word (some 8) .bool] := ⟨_, rfl, rfl, rfl, rfl⟩

/-- conflicting evidence on two equated variables -/
def exInfs2 : Nat → List TE
  | 0 => [.equal 1, .word (some 8) .bool]
  | 1 => [.equal 0, .word (some 160) .address]
  | _ => []

example : ∃ f, unify idOrders 2 2 exInfs2 = .ok (f, 2, 2) ∧ evidence f 0 = [.conflict] ∧
    evidence f 1 = [.conflict] := ⟨_, rfl, rfl, rfl⟩

/-- one round is not enough in general: with fuel 1 this run is out of fuel -/
example : unify idOrders 1 2 exInfs2 = .error .outOfFuel := rfl

end SLE.UnifyJoin

