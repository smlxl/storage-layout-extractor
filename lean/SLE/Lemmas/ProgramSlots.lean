import SLE.Model.Pipe
import SLE.Lemmas.TCSlots
import SLE.Lemmas.ProgramLevel
import SLE.Lemmas.MachineFacts
import SLE.Lemmas.LitInv
import SLE.Lemmas.VMNoPanic
import SLE.Lemmas.VMTermination
import SLE.Lemmas.ProgramModes
/-!
# C06 at program level: no literal storage key of an explored path is missed

Program-level forms of C06 ("no missed slots") about `Pipe.analyseProgram`.

If the analysis of a program returns a layout, every constant key that has a (non-empty) history in
the constant-key storage map `stK` of some finished (stored) thread is the index of a row of the
layout (`program_literal_keys_reported`).  SSTORE / SLOAD with a literal key on top of the stack
leave that key in `stK` with a non-empty history, and no later instruction of the thread removes it.
The scheduler of the model never drops a thread (the section "across the scheduler" says what happens
on errors in strict and in permissive mode), so when the machine has finished every key ever held by
a thread of an intermediate state is held by a stored thread.
-/

namespace SLE.ProgramSlots
open SLE SLE.SV SLE.VM SLE.TCSpec
open SLE.ProgramModes (valuesOf errsOf analysed_inv)
open SLE.MachineFacts
open SLE.Disasm (Instr)

/-! ## "the key `k` is the literal `w`" -/

/-- The key is a constant node whose first payload entry is exactly `w` — the test that
`TCSpec.literalAccess` applies to the key of a top-level load / write (and `TCSlots.IsLit` as a
`Bool`).  `mkKnown (BitVec.ofNat 256 w)` and every `.node .knownData [w] [] _` satisfy it (for
`w < 2^256`), and so does every value a PUSH instruction pushes (`C06.C06_push_pushes_literal`). -/
def litKey (w : Nat) : SV → Bool
  | .node .knownData (x :: _) _ _ => x == w
  | _ => false

theorem litKey_iff {w : Nat} {k : SV} :
    litKey w k = true ↔ ∃ r kk s, k = .node .knownData (w :: r) kk s := by
  constructor
  · intro h
    unfold litKey at h
    split at h
    · simp only [beq_iff_eq] at h
      subst h
      exact ⟨_, _, _, rfl⟩
    · cases h
  · rintro ⟨r, kk, s, rfl⟩
    simp [litKey]

theorem litKey_iff_isLit {w : Nat} {k : SV} : litKey w k = true ↔ TCSlots.IsLit w k := litKey_iff

theorem litKey_node (w : Nat) (r : List Nat) (kk : List SV) (s : Nat) :
    litKey w (.node .knownData (w :: r) kk s) = true := by simp [litKey]

theorem litKey_mkKnown (w : Word) : litKey w.toNat (mkKnown w) = true := by simp [litKey, mkKnown]

theorem litKey_mkKnown_ofNat (w : Nat) (hw : w < 2 ^ 256) :
    litKey w (mkKnown (BitVec.ofNat 256 w)) = true := by
  have := litKey_mkKnown (BitVec.ofNat 256 w)
  rwa [BitVec.toNat_ofNat, Nat.mod_eq_of_lt hw] at this

/-- a literal key is a constant key: it lives in `stK` (`known_slots`) -/
theorem litKey_isKnownKey {w : Nat} {k : SV} (h : litKey w k = true) : isKnownKey k = true := by
  obtain ⟨r, kk, s, rfl⟩ := litKey_iff.mp h
  rfl

theorem litKey_unique {w w' : Nat} {k : SV} (h : litKey w k = true) (h' : litKey w' k = true) :
    w = w' := by
  obtain ⟨r, kk, s, rfl⟩ := litKey_iff.mp h
  simpa [litKey] using h'

theorem literalAccess_write (w : Nat) (k v : SV) :
    literalAccess w (rebuild .storageWrite [] [k, v]) = litKey w k := by
  rw [Bool.eq_iff_iff]
  constructor
  · intro h
    unfold literalAccess rebuild at h
    split at h
    · rename_i heq
      injection heq with hk
      cases hk
    · rename_i heq
      injection heq with _ _ hks _
      injection hks with hk _
      subst hk
      simpa [litKey] using h
    · cases h
  · intro h
    obtain ⟨r, kk, s, rfl⟩ := litKey_iff.mp h
    simp [literalAccess, rebuild]

/-- On a value all of whose literals are 256-bit words (`LitOK`: every value of every reachable
thread, `LitInv.litOK_run`), `as_word()` returning the word `w` is the same as `litKey w`. -/
theorem litKey_of_asWord {w : Nat} {k : SV} (hok : PathSim.Bridge.LitOK k)
    (h : k.asWord.map (·.toNat) = some w) : litKey w k = true := by
  unfold asWord at h
  split at h
  · rename_i x r kk s
    simp only [Option.map_some, Option.some.injEq, BitVec.toNat_ofNat] at h
    have hx : x < 2 ^ 256 := (LitInv.L_node.mp hok).1 rfl x r rfl
    rw [Nat.mod_eq_of_lt hx] at h
    subst h
    exact litKey_node ..
  · cases h

theorem asWord_of_litKey {w : Nat} {k : SV} (hw : w < 2 ^ 256) (h : litKey w k = true) :
    k.asWord.map (·.toNat) = some w := by
  obtain ⟨r, kk, s, rfl⟩ := litKey_iff.mp h
  simp [asWord, Nat.mod_eq_of_lt hw]

/-! ## final-state form -/

def KeyIn (k : SV) (d : TData) : Prop := ∃ g, (k, g) ∈ d.stK ∧ g ≠ []

/-- in a thread of the final state, both ways of saying "`k` is the constant `w`" give `litKey` -/
theorem litKey_of_either {cfg : Cfg} {code : List Instr} {fuel : Nat} {t : Thread}
    (ht : t ∈ (run cfg code fuel (initVM cfg code)).queue ++ (run cfg code fuel (initVM cfg code)).stored)
    {k : SV} {g : List SV} (hk : (k, g) ∈ t.d.stK) {w : Nat}
    (hw : k.asWord.map (·.toNat) = some w ∨ litKey w k = true) : litKey w k = true := by
  rcases hw with hw | hw
  · have hpd := LitInv.litOK_run cfg code fuel t ht
    exact litKey_of_asWord ((ProgramLevel.P_D_iff.mp hpd).stK _ hk).1 hw
  · exact hw

/-- A successful analysis of a program with instruction stream `code`: the run ended without an
abort and without recorded errors, and its stored values are what was type-checked. -/
theorem analysed_run {h : Lift.HashCtx} {o : Unify.Orders} {cfg : Cfg} {bytes : List Nat}
    {vmFuel uFuel : Nat} {code : List Instr} {a : TC.Analysis}
    (hd : Disasm.disasm bytes = .ok code)
    (ha : Pipe.analyseProgram h o cfg bytes vmFuel uFuel = .analysed a) :
    ((run cfg code vmFuel (initVM cfg code)).aborted = none ∧
      (run cfg code vmFuel (initVM cfg code)).errors = []) ∧
    a = TC.analyse h o uFuel (valuesOf (run cfg code vmFuel (initVM cfg code))) := by
  obtain ⟨code', hd', he, ha'⟩ := analysed_inv ha
  cases hd.symm.trans hd'
  refine ⟨?_, ha'⟩
  unfold errsOf at he
  split at he
  · cases he
  · rename_i hab
    exact ⟨hab, he⟩

/-- If the analysis of a program returns a layout, every constant key with a history in the
storage of some finished thread is a slot of the layout, at exactly that index.

"`k` is the constant `w`" can be given in either form: `as_word()` returns `w` (then `w < 2^256`;
the two forms agree on machine values because every literal of a reachable thread is a 256-bit
word, `LitInv.litOK_run`), or `litKey w k` (the node is `knownData` with first payload entry `w`,
which is what `TCSpec.literalAccess` tests). -/
theorem program_literal_keys_reported (h : Lift.HashCtx) (o : Unify.Orders) (cfg : VM.Cfg) (bytes : List Nat)
    (vmFuel uFuel : Nat) (code : List Disasm.Instr) (a : TC.Analysis) (l : List (Layout.Entry JsonModel.AbiType))
    (hd : Disasm.disasm bytes = .ok code)
    (ha : Pipe.analyseProgram h o cfg bytes vmFuel uFuel = .analysed a) (hl : a.outcome = .layout l)
    (t : VM.Thread) (ht : t ∈ (VM.run cfg code vmFuel (VM.initVM cfg code)).stored)
    (k : SV) (g : List SV) (hk : (k, g) ∈ t.d.stK) (hg : g ≠ []) (w : Nat)
    (hw : k.asWord.map (·.toNat) = some w ∨ litKey w k = true)
    (hnot : h.table w = none) : ∃ e ∈ l, e.index = w := by
  have hlit : litKey w k = true := litKey_of_either (List.mem_append_right _ ht) hk hw
  obtain ⟨_, rfl⟩ := analysed_run hd ha
  obtain ⟨v, hv⟩ := List.exists_mem_of_ne_nil _ hg
  have hmem : rebuild .storageWrite [] [k, v] ∈ valuesOf (run cfg code vmFuel (initVM cfg code)) :=
    List.mem_flatMap.mpr ⟨t, ht, entry_exported (List.mem_append_left _ hk) hv⟩
  exact TCSlots.literal_key_reported h o uFuel _ l w _ hmem
    (ProgramLevel.program_values_raw cfg code vmFuel _ hmem)
    (by rw [literalAccess_write]; exact hlit) hnot hl

/-! ## execution form -/

/-! ### `gens` and membership in `stK` -/

theorem keyIn_of_gens {d : TData} {k : SV} (hk : isKnownKey k = true) (h : gens d k ≠ []) :
    (k, gens d k) ∈ d.stK := by
  unfold gens stMap at *
  rw [if_pos hk] at *
  cases hl : lookupSV d.stK k with
  | none => rw [hl] at h; exact absurd rfl h
  | some g => exact MachineFacts.lookupSV_mem _ _ _ hl

theorem keyIn_of_gens' {d : TData} {k : SV} (hk : isKnownKey k = true) (h : gens d k ≠ []) :
    KeyIn k d := ⟨_, keyIn_of_gens hk h, h⟩

theorem lookupSV_isSome_of_mem {β : Type} {m : List (SV × β)} {k : SV} {g : β} (h : (k, g) ∈ m) :
    (lookupSV m k).isSome = true := by
  unfold lookupSV
  rw [Option.isSome_map, List.find?_isSome]
  exact ⟨(k, g), h, SV.beq_refl k⟩

/-- with the invariant `StWF` (no present key has an empty history; holds in every
reachable thread, `reachable_StWF`) an entry of `stK` under a constant key means `gens` is non-empty -/
theorem gens_of_keyIn {d : TData} {k : SV} (hk : isKnownKey k = true) (hwf : StWF d)
    {g : List SV} (h : (k, g) ∈ d.stK) : gens d k ≠ [] := by
  apply gens_ne_nil_of_present hwf
  unfold stMap
  rw [if_pos hk]
  exact lookupSV_isSome_of_mem h

/-! ### SSTORE / SLOAD put the key into `stK` -/

/-- SSTORE on a stack `k :: v :: rest` with `k` the literal `w`: no error, and
afterwards `k` is in the thread's constant-key storage with a non-empty history that ends in `v`. -/
theorem sstore_literal_key_present (c : Ctx) (code : List Instr) (d : TData) (ctr : Nat)
    (k v : SV) (rest : List SV) (w : Nat) (hs : d.stack = k :: v :: rest) (hw : litKey w k = true) :
    (execOp c code (.op 0x55) d ctr).err = none ∧
    ∃ g, (k, g) ∈ (execOp c code (.op 0x55) d ctr).d.stK ∧ g ≠ [] ∧ g.getLast? = some v := by
  obtain ⟨he, hd⟩ := execOp_sstore c code d ctr k v rest hs
  refine ⟨he, ?_⟩
  rw [hd]
  have hg := gens_stStore_self { d with stack := rest } k v
  have hne : gens (stStore { d with stack := rest } k v) k ≠ [] := by rw [hg]; simp
  refine ⟨_, keyIn_of_gens (litKey_isKnownKey hw) hne, hne, ?_⟩
  rw [hg]
  simp

/-- SLOAD with the literal key `k` on top of the stack, in a thread state with the
invariant `StWF` (true of every reachable thread: `reachable_StWF`; without it the claim fails,
`MachineFacts.stLoad_nonempty_counterexample`): afterwards `k` is in the thread's constant-key
storage with a non-empty history. -/
theorem sload_literal_key_present_partial (c : Ctx) (code : List Instr) (d : TData) (ctr : Nat)
    (k : SV) (rest : List SV) (w : Nat) (hs : d.stack = k :: rest) (hw : litKey w k = true)
    (hwf : StWF d) :
    ∃ g, (k, g) ∈ (execOp c code (.op 0x54) d ctr).d.stK ∧ g ≠ [] := by
  have hsame := execOp_sload c code d ctr k rest hs
  have hwf1 : StWF { d with stack := rest } := StWF_of_same rfl rfl hwf
  have hne := stLoad_nonempty_partial _ k hwf1
  rw [← gens_of_same hsame k] at hne
  exact ⟨_, keyIn_of_gens (litKey_isKnownKey hw) hne, hne⟩

/-! ### a key once present stays present -/

theorem updateSV_keeps {β : Type} (m : List (SV × β)) (k0 : SV) (x : β) (k : SV) (g : β)
    (h : (k, g) ∈ m) : (k, g) ∈ updateSV m k0 x ∨ (k, x) ∈ updateSV m k0 x := by
  unfold updateSV
  split
  · by_cases hb : k.beq k0 = true
    · right; exact List.mem_map.mpr ⟨(k, g), h, by simp [hb]⟩
    · left; exact List.mem_map.mpr ⟨(k, g), h, by simp [hb]⟩
  · left; exact List.mem_append_left _ h

def KeepsKeys (d d' : TData) : Prop := ∀ k, KeyIn k d → KeyIn k d'

instance : StRel KeepsKeys where
  same := fun h k ⟨g, hg, hne⟩ => ⟨g, by rw [h.1]; exact hg, hne⟩
  trans := fun h1 h2 k hk => h2 k (h1 k hk)

theorem keepsKeys_stStore (d : TData) (key v : SV) : KeepsKeys d (stStore d key v) := by
  rintro k ⟨g, hg, hne⟩
  unfold stStore
  split
  · rcases updateSV_keeps d.stK key (((lookupSV d.stK key).getD []) ++ [v]) k g hg with h | h
    · exact ⟨g, h, hne⟩
    · exact ⟨_, h, by simp⟩
  · exact ⟨g, hg, hne⟩

theorem stLoad_stK_sub (d : TData) (key : SV) : ∀ p ∈ d.stK, p ∈ (stLoad d key).2.stK := by
  intro p hp
  cases hl : lookupSV (stMap d key) key with
  | some g => rw [stLoad_snd_some d key g hl]; exact hp
  | none =>
    unfold stMap at hl
    unfold stLoad
    simp only [hl]
    split
    · exact List.mem_append_left _ hp
    · exact hp

/-- Every instruction keeps every key of `stK` that has a non-empty history
(no invariant needed). -/
theorem execOp_keeps_keys (c : Ctx) (code : List Instr) (ins : Instr) (d : TData) (ctr : Nat)
    (k : SV) (hk : KeyIn k d) : KeyIn k (execOp c code ins d ctr).d :=
  execOp_rel KeepsKeys c code ins d ctr (fun _ d0 k v => keepsKeys_stStore d0 k v)
    (fun _ d0 key _ ⟨g, hg, hne⟩ => ⟨g, stLoad_stK_sub d0 key _ hg, hne⟩) k hk

/-- Under `StWF` the history of a constant key of `stK` after an
instruction extends the one before it (`execOp_storage_monotone`), and is the history of an entry of
`stK`. -/
theorem execOp_keeps_history (c : Ctx) (code : List Instr) (ins : Instr) (d : TData) (ctr : Nat)
    (k : SV) (hk : isKnownKey k = true) (hwf : StWF d) {g : List SV} (hg : (k, g) ∈ d.stK) :
    gens d k ≠ [] ∧ gens d k <+: gens (execOp c code ins d ctr).d k ∧
    (k, gens (execOp c code ins d ctr).d k) ∈ (execOp c code ins d ctr).d.stK := by
  have h0 := gens_of_keyIn hk hwf hg
  have hm := execOp_storage_monotone c code ins d ctr k
  have h1 : gens (execOp c code ins d ctr).d k ≠ [] := by
    intro e
    rw [e] at hm
    exact h0 (List.prefix_nil.mp hm)
  exact ⟨h0, hm, keyIn_of_gens hk h1⟩

/-! ## across the scheduler

What `VM.step` does with the head thread `t` of the queue (all other queued threads and all stored
threads are kept verbatim, `step_touches_head_only`):

* the instruction returns `Ok`: `t` continues with the new data `o.d` — as the head of the queue, or
  retired to `stored` by `advance` (halting instruction, end of code, visit limit, gas); a JUMPI that
  forks appends a child whose data is `o.d` up to `forkPoint`;
* the instruction returns `Err e` (never a panic, `VMNoPanic.execOp_no_panic`): the thread is
  killed, which in `advance` means it is **retired to `stored` with the data `o.d`** it had when the
  error occurred.  In strict mode, and in permissive mode for the non-jump kinds, `(t.ip, e)` goes
  into `errors`, so `analyseProgram` returns `.execErrors` and no layout; in permissive mode an error
  of one of the four jump kinds is not recorded, the analysis goes on to return a layout, and the
  killed thread's values — its storage keys included — are part of what the type checker sees;
* the instruction pointer is outside the code, or a panic: the state is unchanged except for
  `aborted` (then `analyseProgram` returns `.execErrors`).

So in this model **no thread is ever dropped**: every thread of a state has a continuation in
`queue ++ stored` of every later state, whose storage extends its own.  What can keep a key out of
the layout is only fuel: a thread still queued when `vmFuel` runs out is not handed to the type
checker (`fuel_out_counterexample`).
-/

/-- the storage of the continuation extends the storage of the thread: every history is a prefix
of the later one (`Grows`), and every key of `stK` with a non-empty history is kept (`KeepsKeys`) -/
def Extends (d d' : TData) : Prop := Grows d d' ∧ KeepsKeys d d'

instance : StRel Extends where
  same := fun h => ⟨StRel.same h, StRel.same h⟩
  trans := fun h1 h2 => ⟨StRel.trans h1.1 h2.1, StRel.trans h1.2 h2.2⟩

theorem execOp_extends (c : Ctx) (code : List Instr) (ins : Instr) (d : TData) (ctr : Nat) :
    Extends d (execOp c code ins d ctr).d :=
  ⟨fun k => execOp_storage_monotone c code ins d ctr k, fun k hk => execOp_keeps_keys c code ins d ctr k hk⟩

/-- The head thread after a step: some thread of the new state carries exactly the data its
instruction left (an instruction never panics, `VMNoPanic.execOp_no_panic`). -/
theorem step_head_exec {cfg : Cfg} {code : List Instr} {s : VMS} {t : Thread} {rest : List Thread}
    {ins : Instr} (hq : s.queue = t :: rest) (hi : code[t.ip]? = some ins) :
    ∃ th' ∈ (step cfg code s).queue ++ (step cfg code s).stored,
      th'.d = (opOut cfg code s t ins).d :=
  step_head hq hi fun site he => by
    cases (VMNoPanic.execOp_no_panic _ _ _ _ _).1 _ he

/-- Every thread of a machine state — queued or
stored — is still there in the next state, with the data it had or, if it was the one to run, with
what its instruction made of it. No thread is dropped, whatever the instruction returns and
whatever the mode. -/
theorem step_keeps_threads (cfg : Cfg) (code : List Instr) (s : VMS) :
    ∀ th ∈ s.queue ++ s.stored, ∃ th' ∈ (step cfg code s).queue ++ (step cfg code s).stored,
      th'.d = th.d ∨ ∃ ins, th'.d = (opOut cfg code s th ins).d := by
  intro th hth
  cases hq : s.queue with
  | nil => exact ⟨th, by rwa [step_nil hq], .inl rfl⟩
  | cons t rest =>
    rw [hq, List.cons_append, List.mem_cons] at hth
    rcases hth with rfl | hth
    · cases hi : code[th.ip]? with
      | none => exact ⟨th, by rw [step_oob hq hi, hq]; exact List.mem_cons_self .., .inl rfl⟩
      | some ins =>
        obtain ⟨th', hmem, hd⟩ := step_head_exec (cfg := cfg) hq hi
        exact ⟨th', hmem, .inr ⟨ins, hd⟩⟩
    · exact ⟨th, step_touches_head_only cfg code s th (by rw [hq]; exact hth), .inl rfl⟩

theorem step_continues (cfg : Cfg) (code : List Instr) (s : VMS) :
    ∀ th ∈ s.queue ++ s.stored,
      ∃ th' ∈ (step cfg code s).queue ++ (step cfg code s).stored, Extends th.d th'.d := by
  intro th hth
  obtain ⟨th', hmem, hd | ⟨ins, hd⟩⟩ := step_keeps_threads cfg code s th hth
  · exact ⟨th', hmem, hd ▸ StRel.refl _⟩
  · exact ⟨th', hmem, hd ▸ execOp_extends ..⟩

theorem run_continues (cfg : Cfg) (code : List Instr) (fuel : Nat) (s : VMS) :
    ∀ th ∈ s.queue ++ s.stored,
      ∃ th' ∈ (run cfg code fuel s).queue ++ (run cfg code fuel s).stored, Extends th.d th'.d :=
  fun th hth =>
  run_induction (P := fun s' => ∃ th' ∈ s'.queue ++ s'.stored, Extends th.d th'.d)
    (fun s' ⟨th1, h1, r1⟩ =>
      let ⟨th2, h2, r2⟩ := step_continues cfg code s' th1 h1
      ⟨th2, h2, StRel.trans r1 r2⟩)
    fuel s ⟨th, hth, StRel.refl _⟩

/-! ### intermediate states of a run -/

theorem run_add (cfg : Cfg) (code : List Instr) (m : Nat) :
    ∀ (n : Nat) (s : VMS), run cfg code (n + m) s = run cfg code m (run cfg code n s)
  | 0, s => by rw [Nat.zero_add]; rfl
  | n + 1, s => by
    rw [Nat.add_right_comm]
    by_cases h : (s.queue.isEmpty || s.aborted.isSome) = true
    · rw [run_stop h, run_stop h, run_stop h]
    · rw [run_succ h, run_succ h]
      exact run_add cfg code m n _

theorem run_succ_of_running (cfg : Cfg) (code : List Instr) (n : Nat) (s0 : VMS) {t : Thread}
    {rest : List Thread} (hq : (run cfg code n s0).queue = t :: rest)
    (hab : (run cfg code n s0).aborted = none) :
    run cfg code (n + 1) s0 = step cfg code (run cfg code n s0) := by
  rw [run_add, run_succ (by simp [hq, hab])]
  rfl

/-- If the analysis returns a layout and the machine has finished within
its fuel (`queue = []` at the end; an abort is excluded by `ha`), then every constant key that has a
history in the storage of ANY thread — queued or stored — of ANY intermediate state of the run (the
state after `n ≤ vmFuel` iterations) is a slot of the layout. -/
theorem program_reached_literal_keys_reported (h : Lift.HashCtx) (o : Unify.Orders) (cfg : VM.Cfg)
    (bytes : List Nat) (vmFuel uFuel : Nat) (code : List Disasm.Instr) (a : TC.Analysis)
    (l : List (Layout.Entry JsonModel.AbiType))
    (hd : Disasm.disasm bytes = .ok code)
    (ha : Pipe.analyseProgram h o cfg bytes vmFuel uFuel = .analysed a) (hl : a.outcome = .layout l)
    (hfin : (VM.run cfg code vmFuel (VM.initVM cfg code)).queue = [])
    (n : Nat) (hn : n ≤ vmFuel) (t : VM.Thread)
    (ht : t ∈ (VM.run cfg code n (VM.initVM cfg code)).queue ++ (VM.run cfg code n (VM.initVM cfg code)).stored)
    (k : SV) (g : List SV) (hk : (k, g) ∈ t.d.stK) (hg : g ≠ []) (w : Nat)
    (hw : k.asWord.map (·.toNat) = some w ∨ litKey w k = true)
    (hnot : h.table w = none) : ∃ e ∈ l, e.index = w := by
  have hlit : litKey w k = true := litKey_of_either ht hk hw
  obtain ⟨t', ht', hext⟩ := run_continues cfg code (vmFuel - n) _ t ht
  rw [← run_add, show n + (vmFuel - n) = vmFuel by omega, hfin, List.nil_append] at ht'
  obtain ⟨g', hk', hg'⟩ := hext.2 k ⟨g, hk, hg⟩
  exact program_literal_keys_reported h o cfg bytes vmFuel uFuel code a l hd ha hl t' ht' k g' hk' hg'
    w (.inr hlit) hnot

/-- With the iteration bound of `VM.run_terminates` as fuel, a run whose analysis succeeds has
emptied its queue. -/
theorem finished_of_fuel {h : Lift.HashCtx} {o : Unify.Orders} {cfg : Cfg} {bytes : List Nat}
    {vmFuel uFuel : Nat} {code : List Instr} {a : TC.Analysis}
    (hd : Disasm.disasm bytes = .ok code)
    (ha : Pipe.analyseProgram h o cfg bytes vmFuel uFuel = .analysed a)
    (hc : 0 < code.length) (hi : 0 < cfg.iterLimit)
    (hfuel : vmFuel ≥ (code.length * cfg.iterLimit + 1) *
      (1 + cfg.forkLimit * (code.filter (· == .op 0x5b)).length)) :
    (run cfg code vmFuel (initVM cfg code)).queue = [] := by
  rcases run_terminates hc hi vmFuel hfuel with hq | hab
  · exact hq
  · rw [(analysed_run hd ha).1.1] at hab
    cases hab

/-- If at some point of the run (after `n < vmFuel` iterations, not
aborted) the head thread stands on an instruction that leaves the key `k` — the literal `w` — in
its constant-key storage with a non-empty history, the machine finishes within its fuel and the
analysis returns a layout, then `w` is a slot of the layout. SSTORE and SLOAD with `k` on top of
the stack are such instructions (`sstore_literal_key_present`,
`sload_literal_key_present_partial`). -/
theorem program_access_reported (h : Lift.HashCtx) (o : Unify.Orders) (cfg : VM.Cfg)
    (bytes : List Nat) (vmFuel uFuel : Nat) (code : List Disasm.Instr) (a : TC.Analysis)
    (l : List (Layout.Entry JsonModel.AbiType))
    (hd : Disasm.disasm bytes = .ok code)
    (ha : Pipe.analyseProgram h o cfg bytes vmFuel uFuel = .analysed a) (hl : a.outcome = .layout l)
    (hfin : (VM.run cfg code vmFuel (VM.initVM cfg code)).queue = [])
    (n : Nat) (hn : n < vmFuel) (t : VM.Thread) (rest : List VM.Thread)
    (hq : (VM.run cfg code n (VM.initVM cfg code)).queue = t :: rest)
    (hab : (VM.run cfg code n (VM.initVM cfg code)).aborted = none)
    (ins : Instr) (hi : code[t.ip]? = some ins) (k : SV) (w : Nat) (hw : litKey w k = true)
    (hk : KeyIn k (opOut cfg code (VM.run cfg code n (VM.initVM cfg code)) t ins).d)
    (hnot : h.table w = none) : ∃ e ∈ l, e.index = w := by
  obtain ⟨th', hmem, hd'⟩ := step_head_exec (cfg := cfg) hq hi
  rw [← run_succ_of_running cfg code n _ hq hab] at hmem
  obtain ⟨g, hkg, hg⟩ := hk
  exact program_reached_literal_keys_reported h o cfg bytes vmFuel uFuel code a l hd ha hl hfin (n + 1)
    hn th' hmem k g (hd' ▸ hkg) hg w (.inr hw) hnot

/-! ## Non-vacuity and the boundary cases, by kernel evaluation

PUSH1 1, PUSH1 7, SSTORE, STOP. -/

def exBytes : List Nat := [0x60, 0x01, 0x60, 0x07, 0x55, 0x00]
def exCode : List Instr := [.push 1 [1], .nop, .push 1 [7], .nop, .op 0x55, .op 0x00]
/-- no constant is a known slot hash -/
def exCtx : Lift.HashCtx := ⟨fun _ => none, fun _ => 0⟩
def exCfg : Cfg := ⟨30000000, 10, 50, 250, 394, false⟩
def exCfgPermissive : Cfg := ⟨30000000, 10, 50, 250, 394, true⟩

theorem ex_disasm : Disasm.disasm exBytes = .ok exCode := by rfl

def holdsKey (w : Nat) (ts : List Thread) : Bool :=
  ts.any (fun t => t.d.stK.any (fun p => litKey w p.1 && !p.2.isEmpty))

theorem holdsKey_spec {w : Nat} {ts : List Thread} (h : holdsKey w ts = true) :
    ∃ t ∈ ts, ∃ k g, (k, g) ∈ t.d.stK ∧ g ≠ [] ∧ litKey w k = true := by
  unfold holdsKey at h
  rw [List.any_eq_true] at h
  obtain ⟨t, ht, h⟩ := h
  rw [List.any_eq_true] at h
  obtain ⟨⟨k, g⟩, hp, h⟩ := h
  simp only [Bool.and_eq_true, Bool.not_eq_true', List.isEmpty_eq_false_iff] at h
  exact ⟨t, ht, k, g, hp, h.2, h.1⟩

def layoutOf : Pipe.Result → Option (List (Layout.Entry JsonModel.AbiType))
  | .analysed a => (match a.outcome with | .layout l => some l | _ => none)
  | _ => none

theorem layoutOf_spec {r : Pipe.Result} {l : List (Layout.Entry JsonModel.AbiType)}
    (h : layoutOf r = some l) : ∃ a, r = .analysed a ∧ a.outcome = .layout l := by
  unfold layoutOf at h
  split at h
  · rename_i a
    split at h
    · rename_i l' hl'
      injection h with h
      subst h
      exact ⟨a, rfl, hl'⟩
    · cases h
  · cases h

/-- On the example program all hypotheses of `program_literal_keys_reported` hold together (with
`w = 7`), and the layout is the single slot 7. -/
theorem ex_hyps :
    ((layoutOf (Pipe.analyseProgram exCtx Unify.idOrders exCfg exBytes 100 400)).map
        (fun l => l.map (·.index))) = some [7] ∧
    holdsKey 7 (run exCfg exCode 100 (initVM exCfg exCode)).stored = true ∧
    (run exCfg exCode 100 (initVM exCfg exCode)).queue.isEmpty = true := by
  decide +kernel

/-- `program_literal_keys_reported` instantiated on the example: its hypotheses are satisfiable. -/
example : ∃ a l, Pipe.analyseProgram exCtx Unify.idOrders exCfg exBytes 100 400 = .analysed a ∧
    a.outcome = .layout l ∧
    ∃ t ∈ (run exCfg exCode 100 (initVM exCfg exCode)).stored, ∃ k g, (k, g) ∈ t.d.stK ∧ g ≠ [] ∧
      litKey 7 k = true ∧ exCtx.table 7 = none ∧ ∃ e ∈ l, e.index = 7 := by
  obtain ⟨h1, h2, _⟩ := ex_hyps
  cases hl : layoutOf (Pipe.analyseProgram exCtx Unify.idOrders exCfg exBytes 100 400) with
  | none => rw [hl] at h1; cases h1
  | some l =>
    obtain ⟨a, ha, hout⟩ := layoutOf_spec hl
    obtain ⟨t, ht, k, g, hk, hg, hw⟩ := holdsKey_spec h2
    exact ⟨a, l, ha, hout, t, ht, k, g, hk, hg, hw, rfl,
      program_literal_keys_reported exCtx Unify.idOrders exCfg exBytes 100 400 exCode a l ex_disasm ha hout
        t ht k g hk hg 7 (Or.inr hw) rfl⟩

/-- The hypotheses of `C06.C06_program_sstore_literal_reported` hold on the example with `n = 4`:
after four iterations the only queued thread stands on the SSTORE with the literal 7 on top of its
stack, the run is not aborted, and after 100 iterations the queue is empty (`ex_hyps`). -/
theorem ex_sstore_hyps :
    (match (run exCfg exCode 4 (initVM exCfg exCode)).queue with
      | [t] => exCode[t.ip]? == some (.op 0x55) &&
          (match t.d.stack with | k :: _ :: _ => litKey 7 k | _ => false)
      | _ => false) = true ∧
    (run exCfg exCode 4 (initVM exCfg exCode)).aborted.isNone = true := by
  decide +kernel

/-- The hypothesis `queue = []` of `program_reached_literal_keys_reported` and
`program_access_reported` cannot be dropped: with fuel for only five iterations (PUSH1, its data
byte, PUSH1, its data byte, SSTORE) the thread has executed the SSTORE (it holds key 7) but is still
queued, nothing is stored, and the analysis returns the empty layout. -/
theorem fuel_out_counterexample :
    holdsKey 7 (run exCfg exCode 5 (initVM exCfg exCode)).queue = true ∧
    (run exCfg exCode 5 (initVM exCfg exCode)).stored.isEmpty = true ∧
    ((layoutOf (Pipe.analyseProgram exCtx Unify.idOrders exCfg exBytes 5 400)).map
        (fun l => l.map (·.index))) = some [] := by
  decide +kernel

/-- PUSH1 1, PUSH1 7, SSTORE, PUSH1 0, JUMP: the jump target is not a JUMPDEST, the instruction
returns `Err(InvalidJumpTarget)` and the thread is killed.  In strict mode the error is recorded and
the analysis returns execution errors; in permissive mode it is not recorded, the killed thread is
stored with its storage, and slot 7 is in the layout. -/
def exBytesBadJump : List Nat := [0x60, 0x01, 0x60, 0x07, 0x55, 0x60, 0x00, 0x56]

theorem killed_thread_keeps_keys :
    (match Pipe.analyseProgram exCtx Unify.idOrders exCfg exBytesBadJump 100 400 with
      | .execErrors es => es.map (·.1) == [7]
      | _ => false) = true ∧
    ((layoutOf (Pipe.analyseProgram exCtx Unify.idOrders exCfgPermissive exBytesBadJump 100 400)).map
        (fun l => l.map (·.index))) = some [7] := by
  decide +kernel

end SLE.ProgramSlots
