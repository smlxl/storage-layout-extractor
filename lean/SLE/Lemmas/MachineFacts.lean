import SLE.Props.C10
import SLE.Spec.EVM
import SLE.Lemmas.VMControl
import SLE.Lemmas.VMInv
import SLE.Lemmas.TCSlots
import SLE.Lemmas.EvmSim
import SLE.Model.Pipe
/-!
# Machine facts bridging the reference EVM, the disassembler and the symbolic machine

The reference EVM's `validDest` (byte is 0x5b and the offset is not in `EVM.pushData`) and the
instruction stream's `.op 0x5b` entries are the same set of offsets: `EVM.pushData` is
`Disasm.pushDataMask` on offsets inside the code (`pushData_mem`), then `C10_jumpdest_iff`.

Under every instruction the storage history only grows, and all of it is exported by `all_values`:
a literal key read or written is handed to the type checker as a top-level `storageWrite` with that
literal key, and `TCSlots.literal_key_reported` (= `C06.C06_literal_key_reported`, which also needs
`Raw v` and `h.table w = none`) then gives the layout row.

A fork copies the thread state up to the bookkeeping field `forkPoint`, and `step` touches only the
head thread.
-/

namespace SLE.MachineFacts
open SLE SLE.SV SLE.VM

/-! ## jump destinations -/

theorem pushData_oob (code : Array Nat) (fuel pc : Nat) (acc : List Nat) (h : pc ≥ code.size) :
    EVM.pushData code fuel pc acc = acc := by
  cases fuel with
  | zero => simp [EVM.pushData]
  | succ f => simp [EVM.pushData, h]

/-- The mask of a PUSH at offset `pc` with `m` immediate bytes marks `pc + 1 … pc + m`, and
beyond them whatever the mask `M` of the rest marks. -/
theorem idx_push_abs (m pc t : Nat) (M : List Bool) :
    (pc ≤ t ∧ (false :: (List.replicate m true ++ M))[t - pc]? = some true) ↔
      ((pc + 1 ≤ t ∧ t < pc + 1 + m) ∨ (pc + 1 + m ≤ t ∧ M[t - (pc + 1 + m)]? = some true)) := by
  by_cases h : pc + 1 ≤ t
  · obtain ⟨k, rfl⟩ := Nat.exists_eq_add_of_le h
    have e1 : pc + 1 + k - pc = k + 1 := by omega
    rw [e1, List.getElem?_cons_succ]
    by_cases hk : k < m
    · rw [List.getElem?_append_left (by simpa using hk)]
      simp only [List.getElem?_replicate, hk, if_true, and_true]
      exact ⟨fun _ => .inl ⟨h, by omega⟩, fun _ => by omega⟩
    · have e2 : pc + 1 + k - (pc + 1 + m) = k - m := by omega
      rw [List.getElem?_append_right (by simpa using hk), List.length_replicate, e2]
      constructor
      · intro h'; exact .inr ⟨by omega, h'.2⟩
      · rintro (h' | h')
        · omega
        · exact ⟨by omega, h'.2⟩
  · have ht : t - pc = 0 := by omega
    rw [ht]
    constructor
    · intro h'; simp at h'
    · rintro (h' | h') <;> omega

theorem mem_range_shift (n pc t : Nat) :
    t ∈ (List.range n).map (· + pc + 1) ↔ (pc + 1 ≤ t ∧ t < pc + 1 + n) := by
  simp only [List.mem_map, List.mem_range]
  constructor
  · rintro ⟨a, ha, rfl⟩; omega
  · intro h; exact ⟨t - (pc + 1), by omega, by omega⟩

/-- `EVM.pushData` collects exactly the offsets that the disassembler's forward scan
(`Disasm.pushDataMask`) marks as push immediates (among the offsets inside the code). -/
theorem pushData_mem (bytes : List Nat) :
    ∀ (fuel pc : Nat) (acc : List Nat), pc ≤ bytes.length → bytes.length < pc + fuel →
      ∀ t, t < bytes.length →
        (t ∈ EVM.pushData bytes.toArray fuel pc acc ↔
          (t ∈ acc ∨ (pc ≤ t ∧ (Disasm.pushDataMask (bytes.drop pc))[t - pc]? = some true))) := by
  intro fuel
  induction fuel with
  | zero => intro pc acc _ h; omega
  | succ fuel ih =>
    intro pc acc hpc hfuel t ht
    by_cases hend : pc ≥ bytes.length
    · have : pc = bytes.length := by omega
      subst this
      rw [pushData_oob _ _ _ _ (by simp)]
      simp [Disasm.mask_nil]
    · have hlt : pc < bytes.length := by omega
      have hdrop : bytes.drop pc = bytes[pc] :: bytes.drop (pc + 1) := List.drop_eq_getElem_cons hlt
      have hget : bytes.toArray[pc]! = bytes[pc] := by simp [hlt]
      unfold EVM.pushData
      have hsz : ¬ (pc ≥ bytes.toArray.size) := by simpa using hlt
      simp only [hsz, if_false, hget]
      rw [hdrop, Disasm.mask_cons]
      clear hdrop hget hsz hend
      by_cases hp : Disasm.isPush bytes[pc] = true
      · have hp' : (decide (0x60 ≤ bytes[pc]) && decide (bytes[pc] ≤ 0x7f)) = true := hp
        simp only [hp', hp, if_true]
        clear hp hp'
        generalize bytes[pc] - 0x5f = n
        rw [idx_push_abs, List.drop_drop]
        by_cases hfit : pc + 1 + n ≤ bytes.length
        · have hmin : min n (bytes.drop (pc + 1)).length = n := by simp; omega
          rw [ih (pc + 1 + n) _ hfit (by omega) t ht, List.mem_append, mem_range_shift, hmin,
            or_assoc]
        · have hmin : min n (bytes.drop (pc + 1)).length = bytes.length - (pc + 1) := by
            simp; omega
          have hnil : bytes.drop (pc + 1 + n) = [] := by simp; omega
          have hcut : t < pc + 1 + n ↔ t < pc + 1 + (bytes.length - (pc + 1)) := by omega
          rw [pushData_oob _ _ _ _ (by simp; omega), List.mem_append, mem_range_shift, hmin, hnil,
            Disasm.mask_nil, hcut]
          simp
      · have hp0 : Disasm.isPush bytes[pc] = false := by simpa using hp
        have hp' : (decide (0x60 ≤ bytes[pc]) && decide (bytes[pc] ≤ 0x7f)) = false := hp0
        simp only [hp', hp0, Bool.false_eq_true, if_false]
        clear hp hp0 hp'
        have hskip := idx_push_abs 0 pc t (Disasm.pushDataMask (bytes.drop (pc + 1)))
        have hno : ¬ (pc + 1 ≤ t ∧ t < pc + 1 + 0) := by omega
        rw [List.replicate_zero, List.nil_append, or_iff_right hno] at hskip
        rw [ih (pc + 1) acc (by omega) (by omega) t ht, hskip]

theorem mask_length (bytes : List Nat) : (Disasm.pushDataMask bytes).length = bytes.length :=
  ((Disasm.spec_entries bytes).lengths.1).symm

theorem pushData_iff_mask (bytes : List Nat) (t : Nat) (ht : t < bytes.length) :
    t ∈ EVM.pushData bytes.toArray (bytes.length + 1) 0 [] ↔
      (Disasm.pushDataMask bytes)[t]? = some true := by
  rw [pushData_mem bytes (bytes.length + 1) 0 [] (by omega) (by omega) t ht]
  simp

set_option linter.unusedVariables false in
/-- The reference EVM's valid jump destinations are the `.op 0x5b` entries of the instruction
stream; over `List UInt8`, the form in which C10 is stated. -/
theorem validDest_iff_stream_jumpdest (bs : List UInt8) (code : List Disasm.Instr)
    (hne : bs ≠ []) (hlen : bs.length < 2 ^ 32)
    (h : Disasm.disasm (C10.toNats bs) = .ok code) (t : Nat) :
    EVM.validDest (C10.toNats bs).toArray
        (EVM.pushData (C10.toNats bs).toArray ((C10.toNats bs).length + 1) 0 []) t = true
      ↔ code[t]? = some (.op 0x5b) := by
  rw [C10.C10_jumpdest_iff bs code h t]
  unfold EVM.validDest
  generalize hb : C10.toNats bs = bytes
  by_cases ht : t < bytes.length
  · have hm := pushData_iff_mask bytes t ht
    have hml := mask_length bytes
    have hmt : (Disasm.pushDataMask bytes)[t]? = some ((Disasm.pushDataMask bytes)[t]'(by omega)) :=
      List.getElem?_eq_getElem _
    have hbt : bytes[t]? = some bytes[t] := List.getElem?_eq_getElem _
    have hget : bytes.toArray[t]! = bytes[t] := by simp [ht]
    rw [hmt] at hm ⊢
    rw [hbt, hget]
    simp only [List.size_toArray, ht, decide_true, Bool.true_and, Bool.and_eq_true, beq_iff_eq,
      Bool.not_eq_true', List.contains_eq_mem, decide_eq_false_iff_not, hm, Option.some.injEq]
    cases (Disasm.pushDataMask bytes)[t]'(by omega) <;> simp
  · have h1 : bytes[t]? = none := by simp; omega
    simp [ht]

theorem toNats_ofNat (bytes : List Nat) (hb : ∀ b ∈ bytes, b < 256) :
    C10.toNats (bytes.map UInt8.ofNat) = bytes := by
  induction bytes with
  | nil => rfl
  | cons b bs ih =>
    have h1 : b < 256 := hb b (by simp)
    have h2 := ih (fun x hx => hb x (by simp [hx]))
    simp only [C10.toNats, List.map_cons, List.map_map] at h2 ⊢
    rw [h2]
    simp [UInt8.toNat_ofNat', Nat.mod_eq_of_lt h1]

/-- The same over `List Nat` with every byte below 256. -/
theorem validDest_iff_stream_jumpdest_nat (bytes : List Nat) (code : List Disasm.Instr)
    (hb : ∀ b ∈ bytes, b < 256) (hne : bytes ≠ []) (hlen : bytes.length < 2 ^ 32)
    (h : Disasm.disasm bytes = .ok code) (t : Nat) :
    EVM.validDest bytes.toArray (EVM.pushData bytes.toArray (bytes.length + 1) 0 []) t = true
      ↔ code[t]? = some (.op 0x5b) := by
  have e := toNats_ofNat bytes hb
  have := validDest_iff_stream_jumpdest (bytes.map UInt8.ofNat) code
    (by simpa using hne) (by simpa using hlen) (by rw [e]; exact h) t
  rw [e] at this
  exact this

/-- The symbolic machine's `validateJump` accepts exactly the destinations the
reference EVM accepts (`w` is the whole 256-bit constant the jump counter folds to). -/
theorem validateJump_iff_evm (bs : List UInt8) (code : List Disasm.Instr)
    (hne : bs ≠ []) (hlen : bs.length < 2 ^ 32)
    (h : Disasm.disasm (C10.toNats bs) = .ok code) (counter : SV) (w : Word)
    (hw : VM.isKnown (fold counter) = some w) (t : Nat) :
    validateJump code counter = .ok t ↔
      (w.toNat = t ∧
        EVM.validDest (C10.toNats bs).toArray
          (EVM.pushData (C10.toNats bs).toArray ((C10.toNats bs).length + 1) 0 []) t = true) := by
  rw [validDest_iff_stream_jumpdest bs code hne hlen h t]
  have hcl : code.length = bs.length := C10.C10_length bs code h
  constructor
  · intro hv
    obtain ⟨w', hw', hwt, _, hc⟩ := validateJump_ok hv
    rw [hw] at hw'
    cases hw'
    exact ⟨hwt, hc⟩
  · rintro ⟨rfl, hc⟩
    have hlt : w.toNat < code.length := (List.getElem?_eq_some_iff.mp hc).1
    have h32 : ¬ (w.toNat ≥ 2 ^ 32) := by omega
    unfold validateJump
    rw [hw]
    simp only [h32, if_false, hc]
    simp

/-! ## storage history is append-only and exported -/

/-- the map `Storage` consults for key `k` (`known_slots` for constant keys, `symbolic_slots`
for all other keys) -/
def stMap (d : TData) (k : SV) : List (SV × List SV) := if isKnownKey k then d.stK else d.stS

/-- the generations recorded under key `k`, oldest first -/
def gens (d : TData) (k : SV) : List SV := (lookupSV (stMap d k) k).getD []

/-- every key that is present has at least one generation (holds in the initial state and is
preserved by every instruction) -/
def StWF (d : TData) : Prop := ∀ p ∈ d.stK ++ d.stS, p.2 ≠ []

theorem stMap_stStore_self (d : TData) (k v : SV) :
    stMap (stStore d k v) k = updateSV (stMap d k) k (gens d k ++ [v]) := by
  unfold stStore gens stMap
  cases hk : isKnownKey k <;> simp

theorem stMap_stStore (d : TData) (k v k' : SV) :
    stMap (stStore d k v) k' =
      if isKnownKey k' = isKnownKey k then updateSV (stMap d k) k (gens d k ++ [v])
      else stMap d k' := by
  unfold stStore gens stMap
  cases hk : isKnownKey k <;> cases hk' : isKnownKey k' <;> simp

theorem gens_stStore_self (d : TData) (k v : SV) : gens (stStore d k v) k = gens d k ++ [v] := by
  conv => lhs; unfold gens
  rw [stMap_stStore_self, EvmSim.lookupSV_update_same]
  rfl

theorem gens_stStore_other (d : TData) (k v k' : SV) (hne : k ≠ k') :
    gens (stStore d k v) k' = gens d k' := by
  conv => lhs; unfold gens
  rw [stMap_stStore]
  split
  · rename_i he
    rw [EvmSim.lookupSV_update_other _ _ _ _ hne]
    unfold gens stMap
    rw [he]
  · rfl

/-- SSTORE appends: the history under the written key grows by exactly the written value, the
history under every other key is unchanged. -/
theorem stStore_keeps (d : TData) (k v : SV) :
    (∀ k', gens d k' <+: gens (stStore d k v) k') ∧ v ∈ gens (stStore d k v) k := by
  refine ⟨fun k' => ?_, ?_⟩
  · by_cases hne : k = k'
    · subst hne; rw [gens_stStore_self]; exact List.prefix_append _ _
    · rw [gens_stStore_other _ _ _ _ hne]; exact List.prefix_refl _
  · rw [gens_stStore_self]; simp

/-- the placeholder generation `Storage::load` creates for a key never seen before -/
def unwritten (k : SV) : SV := rebuild .unwrittenStorageValue [] [k]

theorem stLoad_snd_some (d : TData) (k : SV) (g : List SV) (h : lookupSV (stMap d k) k = some g) :
    (stLoad d k).2 = d := by
  unfold stMap at h
  unfold stLoad
  simp only [h]

theorem stMap_stLoad_none (d : TData) (k k' : SV) (h : lookupSV (stMap d k) k = none) :
    stMap (stLoad d k).2 k' =
      if isKnownKey k' = isKnownKey k then stMap d k ++ [(k, [unwritten k])] else stMap d k' := by
  unfold stMap at h
  unfold stLoad
  simp only [h]
  unfold stMap unwritten buildNoLimit
  cases hk : isKnownKey k <;> cases hk' : isKnownKey k' <;> simp

theorem gens_stLoad_self (d : TData) (k : SV) :
    gens (stLoad d k).2 k =
      match lookupSV (stMap d k) k with
      | some g => g
      | none => [unwritten k] := by
  cases h : lookupSV (stMap d k) k with
  | some g =>
    rw [stLoad_snd_some d k g h]
    unfold gens; rw [h]; rfl
  | none =>
    conv => lhs; unfold gens
    rw [stMap_stLoad_none d k k h]
    simp only [if_true]
    rw [EvmSim.lookupSV_append_same _ _ _ h]
    rfl

theorem gens_stLoad_other (d : TData) (k k' : SV) (hne : k ≠ k') :
    gens (stLoad d k).2 k' = gens d k' := by
  cases h : lookupSV (stMap d k) k with
  | some g => rw [stLoad_snd_some d k g h]
  | none =>
    conv => lhs; unfold gens
    rw [stMap_stLoad_none d k k' h]
    split
    · rename_i he
      rw [EvmSim.lookupSV_append_other _ _ _ _ hne]
      unfold gens stMap
      rw [he]
    · rfl

theorem stLoad_present (d : TData) (k : SV) :
    (lookupSV (stMap (stLoad d k).2 k) k).isSome = true := by
  cases h : lookupSV (stMap d k) k with
  | some g => rw [stLoad_snd_some d k g h, h]; rfl
  | none =>
    rw [stMap_stLoad_none d k k h]
    simp only [if_true]
    rw [EvmSim.lookupSV_append_same _ _ _ h]
    rfl

/-- SLOAD never drops history: the generations under every key are kept (under every key other
than `k` they are unchanged; under `k` they are unchanged, or the placeholder is created), and `k`
is present afterwards. -/
theorem stLoad_keeps (d : TData) (k : SV) :
    (∀ k', gens d k' <+: gens (stLoad d k).2 k') ∧
    (lookupSV (stMap (stLoad d k).2 k) k).isSome = true := by
  refine ⟨fun k' => ?_, stLoad_present d k⟩
  by_cases hne : k = k'
  · subst hne
    rw [gens_stLoad_self]
    cases h : lookupSV (stMap d k) k with
    | some g => simp only [gens, h]; exact List.prefix_refl _
    | none => simp only [gens, h]; exact List.nil_prefix
  · rw [gens_stLoad_other _ _ _ hne]; exact List.prefix_refl _

/-! ### the non-emptiness invariant -/

theorem mem_updateSV {β : Type} (m : List (SV × β)) (k : SV) (x : β) (p : SV × β)
    (hp : p ∈ updateSV m k x) : p ∈ m ∨ p.2 = x := by
  unfold updateSV at hp
  split at hp
  · rw [List.mem_map] at hp
    obtain ⟨q, hq, rfl⟩ := hp
    split
    · exact Or.inr rfl
    · exact Or.inl hq
  · rw [List.mem_append] at hp
    rcases hp with hp | hp
    · exact Or.inl hp
    · simp only [List.mem_singleton] at hp; subst hp; exact Or.inr rfl

theorem lookupSV_mem {β : Type} (m : List (SV × β)) (k : SV) (g : β) (h : lookupSV m k = some g) :
    (k, g) ∈ m := by
  unfold lookupSV at h
  cases hf : m.find? (fun p => p.1.beq k) with
  | none => rw [hf] at h; cases h
  | some p =>
    rw [hf] at h
    simp only [Option.map_some, Option.some.injEq] at h
    have hb := List.find?_some hf
    have hm := List.mem_of_find?_eq_some hf
    have : p.1 = k := SV.beq_eq _ _ hb
    obtain ⟨a, b⟩ := p
    simp only at this h
    subst this h
    exact hm

theorem stMap_sub (d : TData) (k : SV) (p : SV × List SV) (h : p ∈ stMap d k) :
    p ∈ d.stK ++ d.stS := by
  unfold stMap at h
  split at h
  · exact List.mem_append_left _ h
  · exact List.mem_append_right _ h

theorem StWF_init : StWF {} := by
  intro p hp; simp at hp

theorem StWF_of_same {d d' : TData} (hK : d'.stK = d.stK) (hS : d'.stS = d.stS) (h : StWF d) :
    StWF d' := by
  unfold StWF at *; rw [hK, hS]; exact h

theorem StWF_stStore (d : TData) (k v : SV) (h : StWF d) : StWF (stStore d k v) := by
  intro p hp
  unfold stStore at hp
  split at hp
  · simp only [List.mem_append] at hp
    rcases hp with hp | hp
    · rcases mem_updateSV _ _ _ _ hp with hq | hq
      · exact h p (by simp [hq])
      · rw [hq]; simp
    · exact h p (by simp [hp])
  · simp only [List.mem_append] at hp
    rcases hp with hp | hp
    · exact h p (by simp [hp])
    · rcases mem_updateSV _ _ _ _ hp with hq | hq
      · exact h p (by simp [hq])
      · rw [hq]; simp

theorem StWF_stLoad (d : TData) (k : SV) (h : StWF d) : StWF (stLoad d k).2 := by
  cases hl : lookupSV (stMap d k) k with
  | some g => rw [stLoad_snd_some d k g hl]; exact h
  | none =>
    intro p hp
    unfold stMap at hl
    unfold stLoad at hp
    simp only [hl] at hp
    split at hp
    · simp only [List.mem_append, List.mem_singleton] at hp
      rcases hp with (hp | hp) | hp
      · exact h p (by simp [hp])
      · subst hp; simp
      · exact h p (by simp [hp])
    · simp only [List.mem_append, List.mem_singleton] at hp
      rcases hp with hp | (hp | hp)
      · exact h p (by simp [hp])
      · exact h p (by simp [hp])
      · subst hp; simp

theorem gens_ne_nil_of_present {d : TData} {k : SV} (hwf : StWF d)
    (hp : (lookupSV (stMap d k) k).isSome = true) : gens d k ≠ [] := by
  unfold gens
  cases h : lookupSV (stMap d k) k with
  | none => rw [h] at hp; cases hp
  | some g =>
    simp only [Option.getD_some]
    exact hwf (k, g) (stMap_sub d k _ (lookupSV_mem _ _ _ h))

/-- With the invariant `StWF` (every present key has a generation) the loaded key has a
non-empty history after the load.  Without it the claim fails: see `stLoad_nonempty_counterexample`. -/
theorem stLoad_nonempty_partial (d : TData) (k : SV) (hwf : StWF d) : gens (stLoad d k).2 k ≠ [] :=
  gens_ne_nil_of_present (StWF_stLoad d k hwf) (stLoad_present d k)

/-- A state in which key `1` is present with an empty history (not reachable: `StWF` fails):
loading it leaves the history empty. -/
theorem stLoad_nonempty_counterexample :
    gens (stLoad { stK := [(mkKnown 1#256, [])] } (mkKnown 1#256)).2 (mkKnown 1#256) = [] := by
  rfl

/-- `VMState::all_values` exports every generation of every storage entry as a `storageWrite` of
its key -/
theorem entry_exported {d : TData} {k : SV} {g : List SV} (hk : (k, g) ∈ d.stK ++ d.stS) {v : SV}
    (hv : v ∈ g) : rebuild .storageWrite [] [k, v] ∈ Pipe.allValues d := by
  unfold Pipe.allValues
  simp only [List.mem_append, List.mem_flatMap, List.mem_map]
  exact Or.inl (Or.inl (Or.inr ⟨(k, g), by simpa using hk, v, hv, rfl⟩))

/-- Everything in the history is exported by `VMState::all_values` as a `storageWrite` of the key. -/
theorem allValues_exports (d : TData) (k v : SV) (h : v ∈ gens d k) :
    rebuild .storageWrite [] [k, v] ∈ Pipe.allValues d := by
  unfold gens at h
  cases hl : lookupSV (stMap d k) k with
  | none => rw [hl] at h; simp at h
  | some g =>
    rw [hl] at h
    exact entry_exported (stMap_sub d k _ (lookupSV_mem _ _ _ hl)) h

/-! ### operations that do not touch storage -/

def SameSt (d d' : TData) : Prop := d'.stK = d.stK ∧ d'.stS = d.stS

theorem SameSt.refl (d : TData) : SameSt d d := ⟨rfl, rfl⟩
theorem SameSt.trans {a b c : TData} (h1 : SameSt a b) (h2 : SameSt b c) : SameSt a c :=
  ⟨h2.1.trans h1.1, h2.2.trans h1.2⟩

theorem same_push {d d' : TData} {v : SV} (h : push d v = .ok d') : SameSt d d' := by
  unfold push at h
  split at h
  · cases h
  · cases h; exact ⟨rfl, rfl⟩

theorem same_pop {d d' : TData} {v : SV} (h : pop d = .ok (v, d')) : SameSt d d' := by
  unfold pop at h
  split at h
  · cases h
  · cases h; exact ⟨rfl, rfl⟩

theorem same_dup {d d' : TData} {n : Nat} (h : dup d n = .ok d') : SameSt d d' := by
  unfold dup at h
  split at h
  · cases h
  · split at h
    · exact same_push h
    · cases h

theorem same_swap {d d' : TData} {n : Nat} (h : swap d n = .ok d') : SameSt d d' := by
  unfold swap at h
  split at h
  · cases h
  · split at h
    · cases h
    · split at h
      · cases h; exact ⟨rfl, rfl⟩
      · cases h

theorem same_pushOut (d : TData) (ctr : Nat) (v : SV) : SameSt d (pushOut d ctr v).d := by
  unfold pushOut
  split
  · rename_i d' h; exact same_push h
  · exact SameSt.refl _

theorem same_record (d : TData) (v : SV) : SameSt d (record d v) := ⟨rfl, rfl⟩
theorem same_logValue (d : TData) (v : SV) : SameSt d (logValue d v) := ⟨rfl, rfl⟩

theorem same_memStore (d : TData) (o v : SV) (w : Bool) : SameSt d (memStore d o v w) := by
  unfold memStore
  dsimp only
  split <;> exact ⟨rfl, rfl⟩

theorem same_memGetC (d : TData) (k : Nat) : SameSt d (memGetC d k).2 := by
  unfold memGetC
  split <;> exact ⟨rfl, rfl⟩

theorem same_memGetS (d : TData) (k : SV) : SameSt d (memGetS d k).2 := by
  unfold memGetS
  split <;> exact ⟨rfl, rfl⟩

theorem same_memLoad (d : TData) (o : SV) : SameSt d (memLoad d o).2 := by
  unfold memLoad
  dsimp only
  split
  · exact same_memGetC ..
  · exact same_memGetS ..

theorem same_memGetMany : ∀ (ks : List Nat) (d : TData), SameSt d (memGetMany d ks).2
  | [], d => SameSt.refl _
  | k :: ks, d => by
    simp only [memGetMany]
    exact (same_memGetC d k).trans (same_memGetMany ks _)

theorem same_memLoadSlice {c : Ctx} {d d' : TData} {o sz v : SV}
    (h : memLoadSlice c d o sz = .ok (v, d')) : SameSt d d' := by
  unfold memLoadSlice at h
  dsimp only at h
  split at h
  · rename_i w hw
    split at h
    · injection h with h
      have h2 := congrArg Prod.snd h
      dsimp only at h2
      rw [← h2]
      exact same_memGetMany _ _
    · injection h with h
      rw [← show (memGetC d (asUsize w)).2 = d' from congrArg Prod.snd h]
      exact same_memGetC ..
  · injection h with h
    rw [← show (memGetS d (fold o)).2 = d' from congrArg Prod.snd h]
    exact same_memGetS ..

/-- A relation between thread states that holds whenever storage is untouched, and is
transitive: the case analysis over `execOp` is done once, for any such relation. -/
class StRel (R : TData → TData → Prop) : Prop where
  same : ∀ {d d'}, SameSt d d' → R d d'
  trans : ∀ {a b c}, R a b → R b c → R a c

theorem StRel.refl {R : TData → TData → Prop} [StRel R] (d : TData) : R d d :=
  StRel.same (SameSt.refl d)

theorem StRel.step {R : TData → TData → Prop} [StRel R] {d d0 d1 : TData}
    (h : SameSt d0 d1) (h0 : R d d0) : R d d1 := StRel.trans h0 (StRel.same h)

instance : StRel SameSt := ⟨fun h => h, SameSt.trans⟩

/-- Any relation that holds across storage-free operations and is transitive holds between the
state before and after an instruction, provided it holds across `stStore` (needed for SSTORE only)
and across `stLoad` (needed for SLOAD only): `R d ·` is kept by every primitive operation, so this
is the case analysis of `VMInv.Keeps.execOp`. -/
theorem execOp_rel (R : TData → TData → Prop) [StRel R] (c : Ctx) (code : List Disasm.Instr)
    (ins : Disasm.Instr) (d : TData) (ctr : Nat)
    (hstore : ins = .op 0x55 → ∀ d0 k v, R d0 (stStore d0 k v))
    (hload : ins = .op 0x54 → ∀ d0 k, R d0 (stLoad d0 k).2) :
    R d (execOp c code ins d ctr).d :=
  have K : VMInv.Keeps c (R d) (fun _ => True) (fun _ => True) :=
    { toBuilds := VMInv.Builds.trivial
      push := fun e h _ => StRel.step (same_push e) h
      pop := fun e h => ⟨trivial, StRel.step (same_pop e) h⟩
      dup := fun e h => StRel.step (same_dup e) h
      swap := fun e h => StRel.step (same_swap e) h
      record := fun h _ => StRel.step (same_record _ _) h
      logValue := fun h _ => StRel.step (same_logValue _ _) h
      memStore := fun h _ _ => StRel.step (same_memStore _ _ _ _) h
      memLoad := fun h _ => ⟨trivial, StRel.step (same_memLoad _ _) h⟩
      memLoadSlice := fun e h _ => ⟨trivial, StRel.step (same_memLoadSlice e) h⟩ }
  (K.execOp (StRel.refl d) (fun hi d0 k v h0 _ _ => StRel.trans h0 (hstore hi d0 k v))
    (fun hi d0 k h0 _ => ⟨StRel.trans h0 (hload hi d0 k), fun _ => trivial⟩)).d

def Grows (d d' : TData) : Prop := ∀ k, gens d k <+: gens d' k

theorem gens_of_same {d d' : TData} (h : SameSt d d') (k : SV) : gens d' k = gens d k := by
  unfold gens stMap; rw [h.1, h.2]

instance : StRel Grows where
  same := fun h k => by rw [gens_of_same h k]; exact List.prefix_refl _
  trans := fun h1 h2 k => List.IsPrefix.trans (h1 k) (h2 k)

def KeepsWF (d d' : TData) : Prop := StWF d → StWF d'

instance : StRel KeepsWF where
  same := fun h hw => StWF_of_same h.1 h.2 hw
  trans := fun h1 h2 hw => h2 (h1 hw)

/-- Every instruction only extends the storage history: under every key, the generations before
the instruction are a prefix of the generations after it. -/
theorem execOp_storage_monotone (c : Ctx) (code : List Disasm.Instr) (ins : Disasm.Instr)
    (d : TData) (ctr : Nat) (k : SV) :
    gens d k <+: gens (execOp c code ins d ctr).d k :=
  execOp_rel Grows c code ins d ctr (fun _ d0 k v => (stStore_keeps d0 k v).1)
    (fun _ d0 k => (stLoad_keeps d0 k).1) k

/-- Only SLOAD (0x54) and SSTORE (0x55) touch the storage maps at all. -/
theorem execOp_storage_same (c : Ctx) (code : List Disasm.Instr) (ins : Disasm.Instr)
    (d : TData) (ctr : Nat) (h54 : ins ≠ .op 0x54) (h55 : ins ≠ .op 0x55) :
    (execOp c code ins d ctr).d.stK = d.stK ∧ (execOp c code ins d ctr).d.stS = d.stS :=
  execOp_rel SameSt c code ins d ctr (fun h => absurd h h55) (fun h => absurd h h54)

theorem execOp_StWF (c : Ctx) (code : List Disasm.Instr) (ins : Disasm.Instr)
    (d : TData) (ctr : Nat) (h : StWF d) : StWF (execOp c code ins d ctr).d :=
  execOp_rel KeepsWF c code ins d ctr (fun _ d0 k v => StWF_stStore d0 k v)
    (fun _ d0 k => StWF_stLoad d0 k) h

/-! ### SSTORE / SLOAD hand their key to the type checker -/

theorem execOp_sstore (c : Ctx) (code : List Disasm.Instr) (d : TData) (ctr : Nat)
    (k v : SV) (rest : List SV) (hs : d.stack = k :: v :: rest) :
    (execOp c code (.op 0x55) d ctr).err = none ∧
    (execOp c code (.op 0x55) d ctr).d = stStore { d with stack := rest } k v := by
  have hp : popN 2 d [] = .ok ([k, v], { d with stack := rest }) := by
    simp [popN, pop, hs]
  rw [EvmSim.execOp_sstore_eq, hp]
  exact ⟨rfl, rfl⟩

/-- After SSTORE of `v` under key `k` the write is exported by `all_values` as a top-level
`storageWrite` with that key.  (For a literal key `TCSlots.literal_key_reported` /
`C06_literal_key_reported` then gives a layout row at that index: see `sstore_literal_exported`.) -/
theorem sstore_exported (c : Ctx) (code : List Disasm.Instr) (d : TData) (ctr : Nat)
    (k v : SV) (rest : List SV) (hs : d.stack = k :: v :: rest) :
    (execOp c code (.op 0x55) d ctr).err = none ∧
    rebuild .storageWrite [] [k, v] ∈ Pipe.allValues (execOp c code (.op 0x55) d ctr).d := by
  obtain ⟨he, hd⟩ := execOp_sstore c code d ctr k v rest hs
  refine ⟨he, ?_⟩
  rw [hd]
  exact allValues_exports _ k v (stStore_keeps _ k v).2

theorem execOp_sload (c : Ctx) (code : List Disasm.Instr) (d : TData) (ctr : Nat)
    (k : SV) (rest : List SV) (hs : d.stack = k :: rest) :
    SameSt (stLoad { d with stack := rest } k).2 (execOp c code (.op 0x54) d ctr).d := by
  rw [EvmSim.execOp_sload_stack, hs]
  dsimp only
  split
  · exact same_pushOut ..
  · exact same_pushOut ..

/-- After SLOAD with key `k` on top of the stack, in a state satisfying the invariant `StWF`
(every present key has a generation: true initially, kept by every instruction — `StWF_init`,
`execOp_StWF`), some generation `g` under `k` — an earlier write, or else the
`UnwrittenStorageValue` placeholder created by the load — is exported by `all_values` as a
top-level `storageWrite` with key `k`.  `_partial`: the hypothesis `StWF d` is needed, see
`sload_exported_counterexample`. -/
theorem sload_exported_partial (c : Ctx) (code : List Disasm.Instr) (d : TData) (ctr : Nat)
    (k : SV) (rest : List SV) (hs : d.stack = k :: rest) (hwf : StWF d) :
    ∃ g, (g ∈ gens d k ∨ g = unwritten k) ∧
      rebuild .storageWrite [] [k, g] ∈ Pipe.allValues (execOp c code (.op 0x54) d ctr).d := by
  have hsame := execOp_sload c code d ctr k rest hs
  have hwf1 : StWF { d with stack := rest } := StWF_of_same rfl rfl hwf
  have hg1 : gens { d with stack := rest } k = gens d k := gens_of_same ⟨rfl, rfl⟩ k
  have hne := stLoad_nonempty_partial _ k hwf1
  have hself := gens_stLoad_self { d with stack := rest } k
  obtain ⟨g, hg⟩ := List.exists_mem_of_ne_nil _ hne
  refine ⟨g, ?_, allValues_exports _ k g (by rw [gens_of_same hsame k]; exact hg)⟩
  rw [hself] at hg
  cases hl : lookupSV (stMap { d with stack := rest } k) k with
  | some gs =>
    rw [hl] at hg
    left
    rw [← hg1]
    unfold gens
    rw [hl]
    exact hg
  | none =>
    rw [hl] at hg
    right
    simpa using hg

/-- Without `StWF` the claim of `sload_exported_partial` fails: in this (unreachable) state key `1`
is present with an empty history; SLOAD leaves it empty, and `all_values` consists of the loaded
value alone — no `storageWrite` at all. -/
theorem sload_exported_counterexample :
    let c : Ctx := { cfg := ⟨0, 0, 0, 100, 0, false⟩, ip := 0, codeLen := 1 }
    let d : TData := { stack := [mkKnown 1#256], stK := [(mkKnown 1#256, [])] }
    Pipe.allValues (execOp c [] (.op 0x54) d 0).d =
      [rebuild .sLoad [] [mkKnown 1#256, mkKnown 0#256]] := by
  rfl

/-- A constant key as the machine builds them (`knownData` with the word as first payload entry,
`mkKnown w` in particular) makes the exported write a literal access in the sense of
`TCSpec.literalAccess`, which is the hypothesis `hlit` of `TCSlots.literal_key_reported`
(= `C06_literal_key_reported`). -/
theorem literalAccess_storageWrite' (x : Nat) (a : List Nat) (ks : List SV) (sz : Nat) (g : SV) :
    TCSpec.literalAccess x (rebuild .storageWrite [] [.node .knownData (x :: a) ks sz, g]) = true := by
  simp [TCSpec.literalAccess, rebuild]

/-- SSTORE to a literal key hands the type checker a literal access to that slot. -/
theorem sstore_literal_exported (c : Ctx) (code : List Disasm.Instr) (d : TData) (ctr : Nat)
    (w : Word) (v : SV) (rest : List SV) (hs : d.stack = mkKnown w :: v :: rest) :
    ∃ x ∈ Pipe.allValues (execOp c code (.op 0x55) d ctr).d,
      TCSpec.literalAccess w.toNat x = true :=
  ⟨_, (sstore_exported c code d ctr _ v rest hs).2, literalAccess_storageWrite' w.toNat [] [] 1 v⟩

/-- SLOAD of a literal key hands the type checker a literal access to that slot. -/
theorem sload_literal_exported_partial (c : Ctx) (code : List Disasm.Instr) (d : TData) (ctr : Nat)
    (w : Word) (rest : List SV) (hs : d.stack = mkKnown w :: rest) (hwf : StWF d) :
    ∃ x ∈ Pipe.allValues (execOp c code (.op 0x54) d ctr).d,
      TCSpec.literalAccess w.toNat x = true := by
  obtain ⟨g, _, hg⟩ := sload_exported_partial c code d ctr _ rest hs hwf
  exact ⟨_, hg, literalAccess_storageWrite' w.toNat [] [] 1 g⟩

/-! ## forking copies the whole state; `step` touches only the head thread -/

/-- `advance_shape` without saying which case: the queue behind the head thread is kept, and what is new in
`queue` or `stored` carries the head thread's data -/
theorem advance_frame {cfg : Cfg} {code : List Disasm.Instr} {s : VMS} {t : Thread}
    {q : List Thread} (hq : s.queue = t :: q) :
    ∃ hd ret, (advance cfg code s).queue = hd ++ q ∧ (advance cfg code s).stored = s.stored ++ ret ∧
      ∀ x ∈ hd ++ ret, x.d = t.d := by
  rcases advance_shape (cfg := cfg) (code := code) hq with ⟨h1, h2⟩ | ⟨h1, h2⟩
  · exact ⟨[_], [], h1, by rw [h2, List.append_nil], fun x hx => by
      rw [List.append_nil, List.mem_singleton] at hx; rw [hx]⟩
  · exact ⟨[], [t], h1, h2, fun x hx => by rw [List.nil_append, List.mem_singleton] at hx; rw [hx]⟩

/-- `s'` keeps the queue behind the head thread of `s` and the stored threads of `s` verbatim, in
place; what is new in it carries the head thread's data before or after its instruction. -/
def Frame (cfg : Cfg) (code : List Disasm.Instr) (s s' : VMS) : Prop :=
  ∃ hd tl ret : List Thread,
    s'.queue = hd ++ s.queue.tail ++ tl ∧ s'.stored = s.stored ++ ret ∧
    ∀ x ∈ hd ++ tl ++ ret, ∃ t, s.queue.head? = some t ∧
      (x.d = t.d ∨ ∃ ins, code[t.ip]? = some ins ∧
        (x.d = (opOut cfg code s t ins).d ∨
         x.d = { (opOut cfg code s t ins).d with forkPoint := t.ip }))

theorem frame_same {cfg : Cfg} {code : List Disasm.Instr} {s : VMS} {t : Thread}
    {rest : List Thread} (hq : s.queue = t :: rest) (a : Option XErr) :
    Frame cfg code s { s with aborted := a } :=
  ⟨[t], [], [], by simp [hq], by simp, fun x hx => by
    simp only [List.append_nil, List.mem_singleton] at hx
    exact ⟨t, by rw [hq]; rfl, .inl (hx ▸ rfl)⟩⟩

theorem frame_advance {cfg : Cfg} {code : List Disasm.Instr} {s s' : VMS} {t h : Thread}
    {rest tl : List Thread} {ins : Disasm.Instr} (hq : s.queue = t :: rest)
    (hi : code[t.ip]? = some ins) (hq' : s'.queue = h :: (rest ++ tl)) (hst : s'.stored = s.stored)
    (hhd : h.d = (opOut cfg code s t ins).d)
    (htl : ∀ x ∈ tl, x.d = { (opOut cfg code s t ins).d with forkPoint := t.ip }) :
    Frame cfg code s (advance cfg code s') := by
  obtain ⟨hd, ret, h1, h2, hnew⟩ := advance_frame (cfg := cfg) (code := code) hq'
  refine ⟨hd, tl, ret, by rw [h1, hq, List.tail_cons, List.append_assoc], by rw [h2, hst],
    fun x hx => ⟨t, by rw [hq]; rfl, .inr ⟨ins, hi, ?_⟩⟩⟩
  simp only [List.mem_append] at hx hnew
  rcases hx with (hx | hx) | hx
  · exact .inl ((hnew x (.inl hx)).trans hhd)
  · exact .inr (htl x hx)
  · exact .inl ((hnew x (.inr hx)).trans hhd)

/-- Frame theorem for one machine iteration: the queue behind the head thread and the stored
threads are kept verbatim, in place; new entries (the continued head thread, a forked child, the
retired head thread) carry the head thread's data before or after its instruction. -/
theorem step_shape (cfg : Cfg) (code : List Disasm.Instr) (s : VMS) :
    ∃ hd tl ret : List Thread,
      (step cfg code s).queue = hd ++ s.queue.tail ++ tl ∧
      (step cfg code s).stored = s.stored ++ ret ∧
      ∀ x ∈ hd ++ tl ++ ret, ∃ t, s.queue.head? = some t ∧
        (x.d = t.d ∨ ∃ ins, code[t.ip]? = some ins ∧
          (x.d = (opOut cfg code s t ins).d ∨
           x.d = { (opOut cfg code s t ins).d with forkPoint := t.ip })) := by
  refine step_cases (motive := Frame cfg code s)
    (fun hq => ⟨[], [], [], by simp [hq], by simp, nofun⟩)
    (fun t rest hq _ => frame_same hq _) (fun t rest _ _ hq _ _ => frame_same hq _)
    (fun t rest ins hq hi _ => ?_) (fun t rest ins e hq hi _ _ => ?_)
  · obtain ⟨h, tl, hmq, hms, hhd, htl⟩ := midOk_shape cfg s t rest ins (opOut cfg code s t ins)
    exact frame_advance hq hi hmq hms hhd htl
  · exact frame_advance (s' := midErr cfg s t rest (opOut cfg code s t ins) e) (tl := []) hq hi
      (by rw [List.append_nil]; rfl) rfl rfl nofun

/-- `step` changes the data of the head thread of the queue only: every other thread of the
queue and every stored thread appears unchanged afterwards. -/
theorem step_touches_head_only (cfg : Cfg) (code : List Disasm.Instr) (s : VMS) :
    ∀ th ∈ s.queue.tail ++ s.stored,
      th ∈ (step cfg code s).queue ++ (step cfg code s).stored := by
  intro th hth
  obtain ⟨hd, tl, ret, hq, hs, _⟩ := step_shape cfg code s
  rw [hq, hs]
  simp only [List.mem_append] at hth ⊢
  rcases hth with h | h
  · exact Or.inl (Or.inl (Or.inr h))
  · exact Or.inr (Or.inl h)

theorem jumpi_fork_data {c : Ctx} {code : List Disasm.Instr} {d : TData} {ctr tgt : Nat}
    (hf : (execOp c code (.op 0x57) d ctr).forkTo = some tgt) :
    ∃ counter cond d1 d2, pop d = .ok (counter, d1) ∧ pop d1 = .ok (cond, d2) ∧
      validateJump code counter = .ok tgt ∧
      (execOp c code (.op 0x57) d ctr).d = record d2 cond := by
  have hf0 := hf
  rw [execOp_jumpi_eq] at hf
  split at hf
  · cases hf
  · rename_i counter d1 hp
    split at hf
    · cases hf
    · rename_i cond d2 hp2
      dsimp only at hf
      split at hf
      · rename_i t' hv
        cases hf
        refine ⟨counter, cond, d1, d2, hp, hp2, hv, ?_⟩
        rw [execOp_jumpi_eq, hp]
        dsimp only
        rw [hp2]
        dsimp only
        rw [hv]
      · cases hf

/-- When `step` executes a JUMPI that forks (valid target, limits not reached), then
after the step the forked thread `child` sits at the end of the queue and the continuing thread
`cont` is either still the head of the queue (moved to the next instruction) or has been retired
to `stored`; nothing else changed in the queue or in `stored`.  Both carry the data `o.d` the
JUMPI left (the state after its two pops, `jumpi_fork_data`): `cont.d = o.d` literally, and
`child.d` is `o.d` with only the bookkeeping field `forkPoint` set to the JUMPI's offset — stack,
memory, storage, recorded and logged values are the same (`_partial`: literal equality
`child.d = o.d` fails because of `forkPoint`, see `fork_forkPoint_differs`). -/
theorem fork_copies_state_partial {cfg : Cfg} {code : List Disasm.Instr} {s : VMS} {t : Thread}
    {rest : List Thread} {ins : Disasm.Instr} {tgt : Nat}
    (hq : s.queue = t :: rest) (hi : code[t.ip]? = some ins)
    (he : (opOut cfg code s t ins).err = none)
    (hf : (opOut cfg code s t ins).forkTo = some tgt)
    (hfork : forkOk cfg (bump t.visited t.ip) s.forks tgt = true) :
    let o := opOut cfg code s t ins
    let child : Thread :=
      { ip := tgt, visited := bump t.visited t.ip, gas := t.gas, d := { o.d with forkPoint := t.ip } }
    let cont : Thread := after t ins o
    ins = .op 0x57 ∧
    (((step cfg code s).queue = { cont with ip := t.ip + 1 } :: rest ++ [child] ∧
        (step cfg code s).stored = s.stored) ∨
     ((step cfg code s).queue = rest ++ [child] ∧
        (step cfg code s).stored = s.stored ++ [cont])) ∧
    cont.d = o.d ∧
    child.d = { o.d with forkPoint := t.ip } ∧
    (child.d.stack = o.d.stack ∧ child.d.memC = o.d.memC ∧ child.d.memS = o.d.memS ∧
      child.d.stK = o.d.stK ∧ child.d.stS = o.d.stS ∧ child.d.recorded = o.d.recorded ∧
      child.d.logged = o.d.logged) ∧
    Pipe.allValues child.d = Pipe.allValues o.d := by
  intro o child cont
  obtain ⟨hins, _, _, hstep, hmq, _⟩ := fork_valid hq hi he hf
  rw [hfork] at hmq
  simp only [if_true] at hmq
  have hms : (midOk cfg s t rest ins o).stored = s.stored := by
    obtain ⟨_, _, _, h, _⟩ := midOk_shape cfg s t rest ins o
    exact h
  refine ⟨hins, ?_, rfl, rfl, ⟨rfl, rfl, rfl, rfl, rfl, rfl, rfl⟩, rfl⟩
  rw [hstep]
  rcases advance_shape (cfg := cfg) (code := code) (s := midOk cfg s t rest ins o)
      (t := after t ins o) (q := rest ++ [child]) hmq with ⟨h1, h2⟩ | ⟨h1, h2⟩
  · left; exact ⟨h1, by rw [h2, hms]⟩
  · right; exact ⟨h1, by rw [h2, hms]⟩

/-- The data `o.d` both threads get in `fork_copies_state_partial` is the head thread's state
after the JUMPI's two pops (with the popped condition recorded). -/
theorem fork_data_after_pops {cfg : Cfg} {code : List Disasm.Instr} {s : VMS} {t : Thread}
    {ins : Disasm.Instr} {tgt : Nat} (hf : (opOut cfg code s t ins).forkTo = some tgt) :
    ∃ counter cond d1 d2, pop t.d = .ok (counter, d1) ∧ pop d1 = .ok (cond, d2) ∧
      validateJump code counter = .ok tgt ∧ (opOut cfg code s t ins).d = record d2 cond := by
  unfold opOut at hf ⊢
  obtain ⟨hins, _⟩ := execOp_forkTo hf
  subst hins
  exact jumpi_fork_data hf

/-- PUSH1 1, PUSH1 5, JUMPI, JUMPDEST: after the JUMPI the continuing thread still has fork
point 0 while the forked child has fork point 4 (the JUMPI's offset) — so the two `d`s are equal
only up to `forkPoint`. -/
theorem fork_forkPoint_differs :
    let cfg : Cfg := ⟨1000, 10, 10, 100, 100, false⟩
    let code : List Disasm.Instr := [.push 1 [1], .nop, .push 1 [5], .nop, .op 0x57, .op 0x5b]
    (step cfg code (step cfg code (step cfg code (step cfg code (step cfg code
      (initVM cfg code)))))).queue.map (fun th => (th.ip, th.d.forkPoint)) = [(5, 0), (5, 4)] := by
  decide +kernel

/-! ### the invariant `StWF` holds in every reachable thread -/

/-- The hypothesis `StWF` of `sload_exported_partial` holds for every thread of every state the
machine reaches from its initial state. -/
theorem reachable_StWF (cfg : Cfg) (code : List Disasm.Instr) (fuel : Nat) :
    ∀ th ∈ (run cfg code fuel (initVM cfg code)).queue ++ (run cfg code fuel (initVM cfg code)).stored,
      StWF th.d :=
  VMInv.ti_run (fun _ _ h => StWF_of_same rfl rfl h) (fun _ _ _ _ _ h => execOp_StWF _ _ _ _ _ h)
    fuel _ (VMInv.ti_init StWF_init)

end SLE.MachineFacts

section AxiomAudit
open SLE.MachineFacts
#print axioms validDest_iff_stream_jumpdest
#print axioms validDest_iff_stream_jumpdest_nat
#print axioms validateJump_iff_evm
#print axioms stStore_keeps
#print axioms stLoad_keeps
#print axioms stLoad_nonempty_partial
#print axioms execOp_storage_monotone
#print axioms execOp_storage_same
#print axioms execOp_StWF
#print axioms allValues_exports
#print axioms sstore_exported
#print axioms sload_exported_partial
#print axioms sload_exported_counterexample
#print axioms sstore_literal_exported
#print axioms sload_literal_exported_partial
#print axioms fork_copies_state_partial
#print axioms fork_data_after_pops
#print axioms fork_forkPoint_differs
#print axioms step_shape
#print axioms step_touches_head_only
#print axioms reachable_StWF
end AxiomAudit
