import SLE.Model.Fold
/-! Constant folding (`fold`, the model of `constant_fold`) preserves denotation and operator
shape, is idempotent, and yields trees that record their true size. -/
namespace SLE.SV

theorem knownBin_not_known : knownBin .knownData = none := rfl
theorem knownUn_not_known : knownUn .knownData = none := rfl

theorem ne_known_of_knownBin {k : Kind} {f : Word → Word → Word} (h : knownBin k = some f) :
    k ≠ .knownData := by rintro rfl; cases h

theorem ne_known_of_knownUn {k : Kind} {f : Word → Word} (h : knownUn k = some f) :
    k ≠ .knownData := by rintro rfl; cases h

theorem eval_node_congr (I : Interp) (k : Kind) (attrs : List Nat) {ks ks' : List SV} (s s' : Nat)
    (h : evalList I ks = evalList I ks') :
    eval I (.node k attrs ks s) = eval I (.node k attrs ks' s') := by
  simp only [eval, h]

theorem eval_mkKnown (I : Interp) (w : Word) : eval I (mkKnown w) = w := by
  simp only [mkKnown, eval, BitVec.ofNat_toNat, BitVec.setWidth_eq]

theorem asWord_eval (I : Interp) (a : SV) (x : Word) (h : a.asWord = some x) : eval I a = x := by
  unfold asWord at h
  split at h
  · rw [eval]; exact Option.some.inj h
  · cases h

theorem eval_node (I : Interp) {k : Kind} (hk : k ≠ .knownData) (attrs : List Nat) (ks : List SV)
    (s : Nat) :
    eval I (.node k attrs ks s) =
      match specBin k, evalList I ks with
      | some f, [x, y] => f x y
      | _, _ =>
        match specUn k, evalList I ks with
        | some f, [x] => f x
        | _, _ => I k attrs (evalList I ks) := by
  cases k
  case knownData => exact absurd rfl hk
  all_goals rfl

theorem foldNode_cases (k : Kind) (attrs : List Nat) (ks : List SV) :
    (∃ f a b x y, knownBin k = some f ∧ ks = [a, b] ∧ a.asWord = some x ∧ b.asWord = some y ∧
      foldNode k attrs ks = mkKnown (f x y)) ∨
    (∃ g a x, knownUn k = some g ∧ ks = [a] ∧ a.asWord = some x ∧
      foldNode k attrs ks = mkKnown (g x)) ∨
    foldNode k attrs ks = rebuild k attrs ks := by
  unfold foldNode
  split
  · next f a b hk =>
    split
    · next x y hx hy => exact .inl ⟨f, a, b, x, y, hk, rfl, hx, hy, rfl⟩
    · exact .inr (.inr rfl)
  · split
    · next g a hk _ =>
      split
      · next x hx => exact .inr (.inl ⟨g, a, x, hk, rfl, hx, rfl⟩)
      · exact .inr (.inr rfl)
    · exact .inr (.inr rfl)

/-- One folding step preserves the denotation, provided the Rust word operations are the
EVM's (the two hypotheses are `C09_word_ops_correct_bin/_un` of `Props/C09.lean`). -/
theorem eval_foldNode (I : Interp)
    (hb : ∀ k, knownBin k = specBin k) (hu : ∀ k, knownUn k = specUn k)
    (k : Kind) (attrs : List Nat) (ks : List SV) (s : Nat) :
    eval I (foldNode k attrs ks) = eval I (.node k attrs ks s) := by
  rcases foldNode_cases k attrs ks with ⟨f, a, b, x, y, hk, rfl, ha, hb', h⟩ | ⟨g, a, x, hk, rfl, ha, h⟩ | h
  · rw [h, eval_mkKnown, eval_node I (ne_known_of_knownBin hk), ← hb k, hk]
    simp only [evalList, asWord_eval I a x ha, asWord_eval I b y hb']
  · rw [h, eval_mkKnown, eval_node I (ne_known_of_knownUn hk), ← hu k, hk]
    simp only [evalList, asWord_eval I a x ha]
    cases specBin k <;> rfl
  · rw [h]; exact eval_node_congr I k attrs _ s rfl

mutual
theorem fold_eval (I : Interp) (hb : ∀ k, knownBin k = specBin k) (hu : ∀ k, knownUn k = specUn k) :
    ∀ t : SV, eval I (fold t) = eval I t
  | .node k attrs ks s => by
    rw [fold, eval_foldNode I hb hu k attrs (foldList ks) s]
    exact eval_node_congr I k attrs s s (foldList_eval I hb hu ks)
theorem foldList_eval (I : Interp) (hb : ∀ k, knownBin k = specBin k) (hu : ∀ k, knownUn k = specUn k) :
    ∀ ts : List SV, evalList I (foldList ts) = evalList I ts
  | [] => rfl
  | t :: ts => by
    simp only [foldList, evalList]
    rw [fold_eval I hb hu t, foldList_eval I hb hu ts]
end

/-! ### Shape -/

theorem foldNode_shape (k : Kind) (attrs : List Nat) (ks : List SV) :
    (∃ w, foldNode k attrs ks = mkKnown w ∧ (∀ a ∈ ks, (a.asWord).isSome) ∧
        ((knownBin k).isSome ∨ (knownUn k).isSome)) ∨
    foldNode k attrs ks = rebuild k attrs ks := by
  rcases foldNode_cases k attrs ks with ⟨f, a, b, x, y, hk, rfl, ha, hb, h⟩ | ⟨g, a, x, hk, rfl, ha, h⟩ | h
  · exact .inl ⟨_, h, by simp [ha, hb], .inl (by simp [hk])⟩
  · exact .inl ⟨_, h, by simp [ha], .inr (by simp [hk])⟩
  · exact .inr h

/-! ### Idempotence -/

theorem asWord_mkKnown (w : Word) : asWord (mkKnown w) = some w := by
  simp [asWord, mkKnown]

theorem fold_mkKnown (w : Word) : fold (mkKnown w) = mkKnown w := by
  simp [mkKnown, fold, foldList, foldNode, knownBin, knownUn, rebuild, childSize]

theorem fold_rebuild (k : Kind) (attrs : List Nat) (ks : List SV) :
    fold (rebuild k attrs ks) = foldNode k attrs (foldList ks) := by
  simp [rebuild, fold]

mutual
theorem fold_idem : ∀ t : SV, fold (fold t) = fold t
  | .node k attrs ks s => by
    have ih := foldList_idem ks
    rw [fold]
    rcases foldNode_shape k attrs (foldList ks) with ⟨w, hw, _⟩ | h
    · rw [hw, fold_mkKnown]
    · rw [h, fold_rebuild, ih, h]
theorem foldList_idem : ∀ ts : List SV, foldList (foldList ts) = foldList ts
  | [] => rfl
  | t :: ts => by simp only [foldList]; rw [fold_idem t, foldList_idem ts]
end

/-! ### True sizes (used by C18) -/

theorem childSize_eq_nodeCountList (ks : List SV) (h : WFList ks) : childSize ks = nodeCountList ks := by
  induction ks with
  | nil => rfl
  | cons a ks ih =>
    cases a with
    | node k at' cs s =>
      simp only [WFList, WF] at h
      simp only [childSize, List.map_cons, List.sum_cons, recSize, nodeCountList, nodeCount]
      have := ih h.2
      simp only [childSize] at this
      omega

theorem wf_rebuild (k : Kind) (attrs : List Nat) (ks : List SV) (h : WFList ks) : WF (rebuild k attrs ks) := by
  simp only [rebuild, WF]
  exact ⟨by rw [childSize_eq_nodeCountList ks h], h⟩

theorem wf_mkKnown (w : Word) : WF (mkKnown w) := by simp [mkKnown, WF, WFList, nodeCountList]
theorem wf_mkValue (i : Nat) : WF (mkValue i) := by simp [mkValue, WF, WFList, nodeCountList]

theorem wf_foldNode (k : Kind) (attrs : List Nat) (ks : List SV) (h : WFList ks) : WF (foldNode k attrs ks) := by
  rcases foldNode_shape k attrs ks with ⟨w, hw, _⟩ | h'
  · rw [hw]; exact wf_mkKnown w
  · rw [h']; exact wf_rebuild k attrs ks h

mutual
/-- Folding yields a tree whose every node records its true size — whatever the input recorded. -/
theorem wf_fold : ∀ t : SV, WF (fold t)
  | .node k attrs ks s => by rw [fold]; exact wf_foldNode k attrs _ (wfList_foldList ks)
theorem wfList_foldList : ∀ ts : List SV, WFList (foldList ts)
  | [] => trivial
  | t :: ts => by simp only [foldList, WFList]; exact ⟨wf_fold t, wfList_foldList ts⟩
end

theorem wf_mk (limit : Option Nat) (fresh : Nat) (k : Kind) (attrs : List Nat) (ks : List SV)
    (h : WFList ks) : WF (mk limit fresh k attrs ks) := by
  unfold mk
  cases limit with
  | none => exact wf_rebuild k attrs ks h
  | some lim =>
    simp only []
    split
    · simp [WF, WFList, nodeCountList]
    · exact wf_rebuild k attrs ks h

/-- `max lim 1`: a limit of 0 still yields the one-node opaque value. -/
theorem nodeCount_mk_le (lim fresh : Nat) (k : Kind) (attrs : List Nat) (ks : List SV)
    (h : WFList ks) : nodeCount (mk (some lim) fresh k attrs ks) ≤ max lim 1 := by
  unfold mk
  simp only []
  split
  · simp [nodeCount, nodeCountList]; omega
  · rename_i hle
    simp only [nodeCount]
    rw [← childSize_eq_nodeCountList ks h]
    omega

mutual
theorem wf_transform (f : Transformer)
    (hf : ∀ k a ks k' a' ks', WFList ks → f k a ks = some (k', a', ks') → WFList ks') :
    ∀ t : SV, WF t → WF (transform f t)
  | .node k attrs ks s, h => by
    simp only [WF] at h
    rw [transform]
    cases hfk : f k attrs ks with
    | none => simp only []; exact wf_rebuild k attrs _ (wfList_transformList f hf ks h.2)
    | some r =>
      obtain ⟨k', a', ks'⟩ := r
      simp only []
      exact wf_rebuild k' a' ks' (hf k attrs ks k' a' ks' h.2 hfk)
theorem wfList_transformList (f : Transformer)
    (hf : ∀ k a ks k' a' ks', WFList ks → f k a ks = some (k', a', ks') → WFList ks') :
    ∀ ts : List SV, WFList ts → WFList (transformList f ts)
  | [], _ => trivial
  | t :: ts, h => by
    simp only [WFList] at h
    simp only [transformList, WFList]
    exact ⟨wf_transform f hf t h.1, wfList_transformList f hf ts h.2⟩
end

theorem nodeCount_foldNode_le (k : Kind) (attrs : List Nat) (ks : List SV) :
    nodeCount (foldNode k attrs ks) ≤ nodeCountList ks + 1 := by
  rcases foldNode_shape k attrs ks with ⟨w, hw, _⟩ | h
  · rw [hw]; simp [mkKnown, nodeCount, nodeCountList]
  · rw [h]; simp [rebuild, nodeCount]

mutual
theorem nodeCount_fold_le : ∀ t : SV, nodeCount (fold t) ≤ nodeCount t
  | .node k attrs ks s => by
    rw [fold]
    have h1 := nodeCount_foldNode_le k attrs (foldList ks)
    have h2 := nodeCountList_foldList_le ks
    simp only [nodeCount]; omega
theorem nodeCountList_foldList_le : ∀ ts : List SV, nodeCountList (foldList ts) ≤ nodeCountList ts
  | [] => Nat.le_refl _
  | t :: ts => by
    simp only [foldList, nodeCountList]
    have := nodeCount_fold_le t
    have := nodeCountList_foldList_le ts
    omega
end

/-! ### `beq` is equality -/

mutual
theorem beq_eq : ∀ (a b : SV), a.beq b = true → a = b
  | .node k1 a1 ks1 s1, .node k2 a2 ks2 s2, h => by
    simp only [SV.beq, Bool.and_eq_true, beq_iff_eq] at h
    obtain ⟨⟨⟨hk, ha⟩, hs⟩, hl⟩ := h
    have := beqList_eq ks1 ks2 hl
    subst hk ha hs this
    rfl
theorem beqList_eq : ∀ (a b : List SV), SV.beqList a b = true → a = b
  | [], [], _ => rfl
  | x :: xs, y :: ys, h => by
    simp only [SV.beqList, Bool.and_eq_true] at h
    rw [beq_eq x y h.1, beqList_eq xs ys h.2]
  | [], _ :: _, h => by simp [SV.beqList] at h
  | _ :: _, [], h => by simp [SV.beqList] at h
end

mutual
theorem beq_refl : ∀ (a : SV), a.beq a = true
  | .node k a ks s => by
    simp only [SV.beq, Bool.and_eq_true, beq_iff_eq, true_and]
    exact beqList_refl ks
theorem beqList_refl : ∀ (a : List SV), SV.beqList a a = true
  | [] => rfl
  | x :: xs => by
    simp only [SV.beqList, Bool.and_eq_true]
    exact ⟨beq_refl x, beqList_refl xs⟩
end

end SLE.SV
