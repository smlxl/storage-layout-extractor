import SLE.Model.TC
import SLE.Model.Unify
import SLE.Lemmas.Unify
import SLE.Lemmas.Poll
/-!
Order facts (C02 / C13): inference sets do not depend on the order in which judgements are added;
`initForest` depends on its inference sets only through membership; the polling discipline of the
unification loop.
-/
namespace SLE.OrderFacts
open SLE SLE.Containers SLE.Unify SLE.TC
set_option linter.unusedVariables false
set_option linter.unusedSimpArgs false

/-! ## `infSets` -/

/-- The inference set recorded for `v` (empty if there is no entry). -/
def getI (m : List (Nat × List TE)) (v : Nat) : List TE := (m.lookup v).getD []

/-- `v ∋ e` is not the self-equality `v = v` (which `infer` drops). -/
def notSelfEq (v : Nat) (e : TE) : Prop := e ≠ .equal v

/-- the local `add` of `infSets` -/
def addInf (m : List (Nat × List TE)) (v : Nat) (e : TE) : List (Nat × List TE) :=
  let cur := (m.lookup v).getD []
  let cur' := Unify.setInsert cur e
  if m.any (·.1 == v) then m.map (fun q => if q.1 == v then (v, cur') else q) else m ++ [(v, cur')]

/-- one step of the fold in `infSets` -/
def infStep (m : List (Nat × List TE)) (p : Nat × TE) : List (Nat × List TE) :=
  match p.2 with
  | .equal id => if id == p.1 then m else addInf (addInf m id (.equal p.1)) p.1 p.2
  | e => addInf m p.1 e

theorem infSets_eq (js : List (Nat × TE)) : infSets js = js.foldl infStep [] := rfl

theorem lookup_map_replace (m : List (Nat × List TE)) (v w : Nat) (c : List TE) :
    (m.map (fun q => if q.1 == v then (v, c) else q)).lookup w =
      if w = v then (m.lookup v).map (fun _ => c) else m.lookup w := by
  induction m with
  | nil => simp
  | cons q m ih =>
    obtain ⟨k, l⟩ := q
    by_cases hk : k = v
    · subst hk
      have e1 : List.map (fun q : Nat × List TE => if q.1 == k then (k, c) else q) ((k, l) :: m) =
          (k, c) :: List.map (fun q : Nat × List TE => if q.1 == k then (k, c) else q) m := by
        simp
      rw [e1]
      simp only [List.lookup_cons, ih]
      by_cases hw : w = k
      · subst hw; simp
      · have : (w == k) = false := by simpa using hw
        simp [this, hw]
    · have hk' : (k == v) = false := by simpa using hk
      have e1 : List.map (fun q : Nat × List TE => if q.1 == v then (v, c) else q) ((k, l) :: m) =
          (k, l) :: List.map (fun q : Nat × List TE => if q.1 == v then (v, c) else q) m := by
        simp [hk]
      rw [e1]
      simp only [List.lookup_cons, ih]
      have hvk : (v == k) = false := by simpa using fun h => hk h.symm
      by_cases hw : w = v
      · subst hw
        simp [hvk]
      · simp only [if_neg hw]

theorem beq_false_of_ne {a b : Nat} (h : a ≠ b) : (b == a) = false := by simpa using Ne.symm h

theorem any_key (m : List (Nat × List TE)) (v : Nat) :
    m.any (·.1 == v) = (m.lookup v).isSome := by
  induction m with
  | nil => rfl
  | cons q m ih =>
    obtain ⟨k, l⟩ := q
    by_cases hk : k = v
    · simp [List.lookup_cons, hk]
    · simp [List.lookup_cons, ih, hk, beq_false_of_ne hk]

theorem lookup_addInf (m : List (Nat × List TE)) (v w : Nat) (e : TE) :
    (addInf m v e).lookup w = if w = v then some (setInsert (getI m v) e) else m.lookup w := by
  unfold addInf getI
  simp only [any_key]
  cases h : m.lookup v with
  | none =>
    by_cases hw : w = v
    · simp [List.lookup_append, List.lookup_cons, h, hw]
    · simp [List.lookup_append, List.lookup_cons, h, hw, beq_false_of_ne (Ne.symm hw)]
  | some l =>
    simp only [Option.isSome_some, if_true, Option.getD_some]
    rw [lookup_map_replace, h]
    rfl

theorem getI_addInf (m : List (Nat × List TE)) (v w : Nat) (e : TE) :
    getI (addInf m v e) w = if w = v then setInsert (getI m v) e else getI m w := by
  unfold getI
  rw [lookup_addInf]
  split <;> rfl

theorem mem_getI_addInf (m : List (Nat × List TE)) (v w : Nat) (e x : TE) :
    x ∈ getI (addInf m v e) w ↔ x ∈ getI m w ∨ (w = v ∧ x = e) := by
  rw [getI_addInf]
  by_cases hw : w = v
  · subst hw; simp [mem_setInsert]
  · simp [hw]

theorem mem_getI_infStep (m : List (Nat × List TE)) (p : Nat × TE) (w : Nat) (x : TE) :
    x ∈ getI (infStep m p) w ↔
      x ∈ getI m w ∨ (p = (w, x) ∧ notSelfEq w x) ∨
        (∃ id, x = .equal id ∧ p = (id, .equal w) ∧ id ≠ w) := by
  obtain ⟨v, e⟩ := p
  unfold infStep notSelfEq
  -- a self-equality is dropped, an equality is recorded on both sides, anything else once
  cases e with
  | equal id =>
    simp only []
    split
    · rename_i h; simp only [beq_iff_eq] at h; grind
    · rename_i h; simp only [beq_iff_eq] at h; simp only [mem_getI_addInf]; grind
  | _ => simp only [mem_getI_addInf]; grind

theorem mem_getI_foldl (js : List (Nat × TE)) :
    ∀ (m : List (Nat × List TE)) (w : Nat) (x : TE),
      x ∈ getI (js.foldl infStep m) w ↔
        x ∈ getI m w ∨ ((w, x) ∈ js ∧ notSelfEq w x) ∨
          (∃ id, x = .equal id ∧ (id, .equal w) ∈ js ∧ id ≠ w) := by
  induction js with
  | nil => intro m w x; simp
  | cons p js ih =>
    intro m w x
    rw [List.foldl_cons, ih, mem_getI_infStep]
    simp only [List.mem_cons]
    constructor
    · rintro ((h | ⟨h, h'⟩ | ⟨i, a, b, c⟩) | ⟨h, h'⟩ | ⟨i, a, b, c⟩)
      · exact .inl h
      · exact .inr (.inl ⟨.inl h.symm, h'⟩)
      · exact .inr (.inr ⟨i, a, .inl b.symm, c⟩)
      · exact .inr (.inl ⟨.inr h, h'⟩)
      · exact .inr (.inr ⟨i, a, .inr b, c⟩)
    · rintro (h | ⟨h | h, h'⟩ | ⟨i, a, b | b, c⟩)
      · exact .inl (.inl h)
      · exact .inl (.inr (.inl ⟨h.symm, h'⟩))
      · exact .inr (.inl ⟨h, h'⟩)
      · exact .inl (.inr (.inr ⟨i, a, b.symm, c⟩))
      · exact .inr (.inr ⟨i, a, b, c⟩)

/-- **Characterisation.** `e` is in the inference set of `v` iff the judgement `v ∋ e` was
added and is not the self-equality, or `e` is the mirror image `equal id` of an added equality
`id ∋ equal v` between different variables. -/
theorem mem_infSets (js : List (Nat × TE)) (v : Nat) (e : TE) :
    e ∈ ((infSets js).lookup v).getD [] ↔
      ((v, e) ∈ js ∧ notSelfEq v e) ∨ (∃ id, e = .equal id ∧ (id, .equal v) ∈ js ∧ id ≠ v) := by
  have := mem_getI_foldl js [] v e
  rw [infSets_eq]
  simpa [getI] using this

/-- Membership in every inference set is invariant under reordering the judgements. -/
theorem infSets_perm_mem {js js' : List (Nat × TE)} (h : js.Perm js') (v : Nat) :
    ∀ e, e ∈ ((infSets js).lookup v).getD [] ↔ e ∈ ((infSets js').lookup v).getD [] := by
  intro e
  rw [mem_infSets, mem_infSets]
  simp only [h.mem_iff]

theorem nodup_setInsert {s : List TE} (h : s.Nodup) (e : TE) : (setInsert s e).Nodup := by
  unfold setInsert
  split
  · exact h
  · rename_i hc
    have : e ∉ s := by simpa using hc
    rw [List.nodup_append]
    exact ⟨h, by simp, by
      intro a ha b hb
      simp only [List.mem_singleton] at hb
      subst hb
      exact fun hab => this (hab ▸ ha)⟩

/-- What `addInf` preserves holds of every `infSets`. -/
theorem infSets_induct (I : List (Nat × List TE) → Prop) (h0 : I [])
    (hadd : ∀ m v e, I m → I (addInf m v e)) (js : List (Nat × TE)) : I (infSets js) := by
  rw [infSets_eq]
  refine foldl_inv infStep I js (fun m p _ hm => ?_) [] h0
  unfold infStep
  split
  · split
    · exact hm
    · exact hadd _ _ _ (hadd _ _ _ hm)
  · exact hadd _ _ _ hm

/-- Every inference set is duplicate free (it models a `HashSet`). -/
theorem infSets_nodup (js : List (Nat × TE)) (v : Nat) :
    (((infSets js).lookup v).getD []).Nodup := by
  refine infSets_induct (fun m => ∀ w, (getI m w).Nodup) (fun w => List.nodup_nil)
    (fun m v e h w => ?_) js v
  rw [getI_addInf]
  split
  · exact nodup_setInsert (h v) e
  · exact h w

/-! ### which variables have an entry -/

/-- every entry is non-empty -/
def NonEmp (m : List (Nat × List TE)) : Prop := ∀ w l, m.lookup w = some l → l ≠ []

theorem setInsert_ne_nil (s : List TE) (e : TE) : setInsert s e ≠ [] := by
  intro h
  have : e ∈ setInsert s e := (mem_setInsert s e e).mpr (.inr rfl)
  rw [h] at this; cases this

theorem infSets_nonEmp (js : List (Nat × TE)) : NonEmp (infSets js) := by
  refine infSets_induct NonEmp (fun w l h => by cases h) (fun m v e h w l hl => ?_) js
  rw [lookup_addInf] at hl
  split at hl
  · injection hl with hl; subst hl; exact setInsert_ne_nil _ _
  · exact h w l hl

/-- A variable has an entry exactly when its inference set is inhabited. -/
theorem infSets_entry_iff (js : List (Nat × TE)) (v : Nat) :
    ((infSets js).lookup v).isSome = true ↔ ∃ e, e ∈ ((infSets js).lookup v).getD [] := by
  cases h : (infSets js).lookup v with
  | none => simp
  | some l =>
    have := infSets_nonEmp js v l h
    cases l with
    | nil => exact absurd rfl this
    | cons a l => simp

/-- The same variables have an entry, whatever the order of the judgements. -/
theorem infSets_perm_entry {js js' : List (Nat × TE)} (h : js.Perm js') (v : Nat) :
    ((infSets js).lookup v).isSome = ((infSets js').lookup v).isSome := by
  rw [Bool.eq_iff_iff, infSets_entry_iff, infSets_entry_iff]
  constructor
  · rintro ⟨e, he⟩; exact ⟨e, (infSets_perm_mem h v e).mp he⟩
  · rintro ⟨e, he⟩; exact ⟨e, (infSets_perm_mem h v e).mpr he⟩

/-! ## `initForest` sees its inference sets only through membership

The forest `initForest` builds is characterised *semantically*: two variables are in the same
class iff they are related by the equivalence closure of the input equalities, and the evidence of
a class is the set of all non-`Equal` judgements on its members.  Both are functions of the
membership predicate `fun v e => v ∈ vars ∧ e ∈ infs v` alone. -/

/-- Equivalence closure of the equalities in a judgement predicate `P`. -/
inductive Eqv (P : Nat → TE → Prop) : Nat → Nat → Prop
  | rel {a b : Nat} : P a (.equal b) → Eqv P a b
  | refl (a : Nat) : Eqv P a a
  | symm {a b : Nat} : Eqv P a b → Eqv P b a
  | trans {a b c : Nat} : Eqv P a b → Eqv P b c → Eqv P a c

theorem Eqv.mono {P Q : Nat → TE → Prop} (h : ∀ a b, P a (.equal b) → Q a (.equal b)) {a b : Nat}
    (hab : Eqv P a b) : Eqv Q a b := by
  induction hab with
  | rel hp => exact .rel (h _ _ hp)
  | refl a => exact .refl a
  | symm _ ih => exact .symm ih
  | trans _ _ ih1 ih2 => exact .trans ih1 ih2

/-- The class of `a` in `f`, as a relation. -/
def sameClass (f : Forest) (a b : Nat) : Prop := DS.rootOf f a = DS.rootOf f b

/-- The evidence held by the class of `a`. -/
def evidence (f : Forest) (a : Nat) : List TE := DS.dataAt setM f (DS.rootOf f a)

/-- `f` represents the judgement predicate `P`. -/
structure Rep (f : Forest) (P : Nat → TE → Prop) : Prop where
  inv : DS.Inv f
  part : ∀ a b, sameClass f a b ↔ Eqv P a b
  data : ∀ a e, e ∈ evidence f a ↔ ∃ w, P w e ∧ NoEq e = true ∧ Eqv P w a

theorem Rep.congr {f : Forest} {P P' : Nat → TE → Prop} (h : Rep f P)
    (hp : ∀ a x, P a x ↔ P' a x) : Rep f P' := by
  have : P = P' := funext fun a => funext fun x => propext (hp a x)
  subst this; exact h

/-- Generic step: how a forest operation that only merges classes and only adds evidence moves
the representation. -/
theorem rep_step {f f' : Forest} {P P' : Nat → TE → Prop} (h : Rep f P) (hi : DS.Inv f')
    (hPP' : ∀ a x, P a x → P' a x)
    (hpart : ∀ a b, sameClass f' a b ↔ Eqv P' a b)
    (hd1 : ∀ a e, e ∈ evidence f' a →
      (∃ c, sameClass f' c a ∧ e ∈ evidence f c) ∨
        (∃ w, P' w e ∧ NoEq e = true ∧ sameClass f' w a))
    (hd2 : ∀ a e c, sameClass f' c a → e ∈ evidence f c → e ∈ evidence f' a)
    (hd3 : ∀ a e w, P' w e → ¬ P w e → NoEq e = true → sameClass f' w a → e ∈ evidence f' a) :
    Rep f' P' := by
  refine ⟨hi, hpart, fun a e => ⟨fun he => ?_, ?_⟩⟩
  · rcases hd1 a e he with ⟨c, hc, hec⟩ | ⟨w, hw, hn, hwa⟩
    · obtain ⟨w, hw, hn, hwc⟩ := (h.data c e).mp hec
      exact ⟨w, hPP' _ _ hw, hn, .trans (hwc.mono (fun a b => hPP' a _)) ((hpart c a).mp hc)⟩
    · exact ⟨w, hw, hn, (hpart w a).mp hwa⟩
  · rintro ⟨w, hw, hn, hwa⟩
    have hwa' := (hpart w a).mpr hwa
    by_cases hp : P w e
    · exact hd2 a e w hwa' ((h.data w e).mpr ⟨w, hp, hn, .refl w⟩)
    · exact hd3 a e w hw hp hn hwa'

theorem dataAt_setM (f : Forest) (k : Nat) : DS.dataAt setM f k = (f.data.get k).getD [] := rfl

/-- What `union` does to classes and evidence. -/
theorem union_sem {f : Forest} (hi : DS.Inv f) (v id : Nat) :
    ∃ f', f.union setM v id = .ok f' ∧ DS.Inv f' ∧
      (∀ w, DS.rootOf f' w =
        if DS.rootOf f w = DS.rootOf f id then DS.rootOf f v else DS.rootOf f w) ∧
      (∀ a e, e ∈ evidence f' a ↔ ∃ c, sameClass f' c a ∧ e ∈ evidence f c) := by
  obtain ⟨f', e, i1, _, i3, i4⟩ := DS.union_spec setM f v id hi
  by_cases hab : DS.rootOf f v = DS.rootOf f id
  · obtain ⟨j1, j2⟩ := i3 hab
    have hroots : ∀ w, DS.rootOf f' w =
        if DS.rootOf f w = DS.rootOf f id then DS.rootOf f v else DS.rootOf f w := by
      intro w; rw [j1]; split
      · rename_i h; rw [h, hab]
      · rfl
    refine ⟨f', e, i1, hroots, ?_⟩
    intro a x
    unfold evidence sameClass
    simp only [dataAt_setM, j1, j2]
    constructor
    · exact fun h => ⟨a, rfl, h⟩
    · rintro ⟨c, hc, h⟩; rw [← hc]; exact h
  · obtain ⟨j1, j2⟩ := i4 hab
    refine ⟨f', e, i1, j1, ?_⟩
    intro a x
    unfold evidence sameClass
    by_cases hA : DS.rootOf f' a = DS.rootOf f v
    · have hmem : x ∈ DS.dataAt setM f' (DS.rootOf f' a) ↔
          x ∈ DS.dataAt setM f (DS.rootOf f v) ∨ x ∈ DS.dataAt setM f (DS.rootOf f id) := by
        rw [hA, dataAt_setM, j2, if_pos rfl]
        exact mem_setUnion _ _ _
      rw [hmem]
      constructor
      · rintro (h | h)
        · refine ⟨v, ?_, h⟩
          rw [hA, j1, if_neg hab]
        · refine ⟨id, ?_, h⟩
          rw [hA, j1, if_pos rfl]
      · rintro ⟨c, hc, h⟩
        rw [hA, j1] at hc
        split at hc
        · rename_i hcb; rw [hcb] at h; exact .inr h
        · rw [hc] at h; exact .inl h
    · have hA' := hA
      rw [j1] at hA'
      have hab' : ¬ DS.rootOf f a = DS.rootOf f id := by
        intro h; rw [if_pos h] at hA'; exact hA' rfl
      rw [if_neg hab'] at hA'
      have hra : DS.rootOf f' a = DS.rootOf f a := by rw [j1, if_neg hab']
      have hmem : DS.dataAt setM f' (DS.rootOf f' a) = DS.dataAt setM f (DS.rootOf f a) := by
        rw [hra, dataAt_setM, j2, if_neg hA', if_neg hab']; rfl
      rw [hmem]
      constructor
      · intro h; exact ⟨a, rfl, h⟩
      · rintro ⟨c, hc, h⟩
        rw [hra, j1] at hc
        split at hc
        · exact absurd hc.symm hA'
        · rw [hc] at h; exact h

theorem rep_union {f : Forest} {P : Nat → TE → Prop} (h : Rep f P) (v id : Nat) :
    ∃ f', f.union setM v id = .ok f' ∧
      Rep f' (fun a x => P a x ∨ (a = v ∧ x = .equal id)) := by
  obtain ⟨f', e, i1, hr, hd⟩ := union_sem h.inv v id
  refine ⟨f', e, ?_⟩
  have hmono : ∀ a b, DS.rootOf f a = DS.rootOf f b → DS.rootOf f' a = DS.rootOf f' b := by
    intro a b hab; rw [hr, hr, hab]
  have hv : DS.rootOf f' v = DS.rootOf f v := by rw [hr]; split <;> rfl
  have hid : DS.rootOf f' id = DS.rootOf f v := by rw [hr, if_pos rfl]
  have hP : ∀ a b, Eqv P a b → Eqv (fun a x => P a x ∨ (a = v ∧ x = .equal id)) a b :=
    fun a b => Eqv.mono (fun _ _ hp => .inl hp)
  have hpart : ∀ a b, sameClass f' a b ↔
      Eqv (fun a x => P a x ∨ (a = v ∧ x = .equal id)) a b := by
    intro a b
    constructor
    · intro hab
      unfold sameClass at hab
      rw [hr a, hr b] at hab
      by_cases ha : DS.rootOf f a = DS.rootOf f id <;> by_cases hb : DS.rootOf f b = DS.rootOf f id
      · exact hP _ _ ((h.part a b).mp (ha.trans hb.symm))
      · rw [if_pos ha, if_neg hb] at hab
        have h1 := hP _ _ ((h.part a id).mp ha)
        have h2 := hP _ _ ((h.part v b).mp hab)
        exact .trans h1 (.trans (.symm (.rel (.inr ⟨rfl, rfl⟩))) h2)
      · rw [if_neg ha, if_pos hb] at hab
        have h1 := hP _ _ ((h.part a v).mp hab)
        have h2 := hP _ _ ((h.part id b).mp hb.symm)
        exact .trans h1 (.trans (.rel (.inr ⟨rfl, rfl⟩)) h2)
      · rw [if_neg ha, if_neg hb] at hab
        exact hP _ _ ((h.part a b).mp hab)
    · intro hab
      induction hab with
      | rel hp =>
        rcases hp with hp | ⟨rfl, hx⟩
        · exact hmono _ _ ((h.part _ _).mpr (.rel hp))
        · injection hx with hx; subst hx
          unfold sameClass; rw [hv, hid]
      | refl a => rfl
      | symm _ ih => exact ih.symm
      | trans _ _ ih1 ih2 => exact ih1.trans ih2
  refine rep_step h i1 (fun _ _ hp => .inl hp) hpart ?_ ?_ ?_
  · intro a x hx
    exact .inl ((hd a x).mp hx)
  · intro a x c hc hx
    exact (hd a x).mpr ⟨c, hc, hx⟩
  · intro a x w hw hnp hn _
    rcases hw with hw | ⟨_, rfl⟩
    · exact absurd hw hnp
    · cases hn

theorem rep_addData {f : Forest} {P : Nat → TE → Prop} (h : Rep f P) (v : Nat) (e : TE)
    (he : NoEq e = true) :
    ∃ f', f.addData setM v [e] = .ok f' ∧ Rep f' (fun a x => P a x ∨ (a = v ∧ x = e)) := by
  obtain ⟨f', e1, i1, i2, i3, _⟩ := DS.addData_spec setM f v [e] h.inv
  refine ⟨f', e1, ?_⟩
  have hnoteq : ∀ b, e ≠ .equal b := by
    intro b hb; subst hb; cases he
  have hev : ∀ a x, x ∈ evidence f' a ↔
      x ∈ evidence f a ∨ (DS.rootOf f a = DS.rootOf f v ∧ x = e) := by
    intro a x
    unfold evidence
    rw [i2, dataAt_setM, i3]
    by_cases hav : DS.rootOf f a = DS.rootOf f v
    · rw [if_pos hav]
      show x ∈ setUnion (DS.dataAt setM f (DS.rootOf f v)) [e] ↔ _
      rw [mem_setUnion, hav]
      simp
    · rw [if_neg hav]
      simp [dataAt_setM, hav]
  have hsc : ∀ a b, sameClass f' a b ↔ sameClass f a b := by
    intro a b; unfold sameClass; rw [i2, i2]
  have hpart : ∀ a b, sameClass f' a b ↔ Eqv (fun a x => P a x ∨ (a = v ∧ x = e)) a b := by
    intro a b
    rw [hsc, h.part]
    constructor
    · exact Eqv.mono (fun _ _ hp => .inl hp)
    · apply Eqv.mono
      rintro a b (hp | ⟨_, hx⟩)
      · exact hp
      · exact absurd hx.symm (hnoteq b)
  refine rep_step h i1 (fun _ _ hp => .inl hp) hpart ?_ ?_ ?_
  · intro a x hx
    rcases (hev a x).mp hx with hx | ⟨hav, rfl⟩
    · exact .inl ⟨a, rfl, hx⟩
    · exact .inr ⟨v, .inr ⟨rfl, rfl⟩, he, (hsc v a).mpr hav.symm⟩
  · intro a x c hc hx
    rw [hsc] at hc
    unfold sameClass at hc
    refine (hev a x).mpr (.inl ?_)
    unfold evidence at hx ⊢
    rw [← hc]; exact hx
  · intro a x w hw hnp hn hwa
    rcases hw with hw | ⟨rfl, rfl⟩
    · exact absurd hw hnp
    · rw [hsc] at hwa
      exact (hev a x).mpr (.inr ⟨hwa.symm, rfl⟩)

theorem rep_initStep {f : Forest} {P : Nat → TE → Prop} (h : Rep f P) (v : Nat) (e : TE) :
    ∃ f', initStep v f e = .ok f' ∧ Rep f' (fun a x => P a x ∨ (a = v ∧ x = e)) := by
  cases he : NoEq e with
  | true =>
    obtain ⟨f', e1, r⟩ := rep_addData h v e he
    exact ⟨f', initStep_of_noEq he e1, r⟩
  | false =>
    cases e with
    | equal id =>
      obtain ⟨f', e1, r⟩ := rep_union h v id
      exact ⟨f', forestFault_ok.mpr e1, r⟩
    | _ => cases he

/-- A fold of steps, the step at `x` adding the judgements `R x`, adds them all. -/
theorem rep_foldlM {α : Type} (step : Forest → α → Except UFault Forest)
    (R : α → Nat → TE → Prop)
    (hstep : ∀ (f : Forest) (P : Nat → TE → Prop) x, Rep f P →
      ∃ f', step f x = .ok f' ∧ Rep f' (fun a e => P a e ∨ R x a e)) (l : List α) :
    ∀ (f : Forest) (P : Nat → TE → Prop), Rep f P →
      ∃ f', l.foldlM step f = .ok f' ∧ Rep f' (fun a e => P a e ∨ ∃ x ∈ l, R x a e) := by
  induction l with
  | nil => intro f P h; exact ⟨f, rfl, h.congr (fun a e => by simp)⟩
  | cons x l ih =>
    intro f P h
    obtain ⟨f1, e1, r1⟩ := hstep f P x h
    obtain ⟨f2, e2, r2⟩ := ih f1 _ r1
    refine ⟨f2, by rw [List.foldlM_cons, e1]; exact e2, r2.congr (fun a e => ?_)⟩
    simp only [List.mem_cons, exists_eq_or_imp, or_assoc]

theorem rep_start (vs : List Nat) :
    Rep (vs.foldl (fun (f : Forest) v => f.insert v) {}) (fun _ _ => False) := by
  obtain ⟨u, hr, hd⟩ := insertAll_uinv vs uinv_empty
  have hroot : ∀ w, DS.rootOf (vs.foldl (fun (f : Forest) v => f.insert v) {}) w = w := by
    intro w
    rw [hr]
    exact DS.rootOf_absent DS.inv_empty (DS.get_empty w)
  refine ⟨u.1, ?_, ?_⟩
  · intro a b
    unfold sameClass
    rw [hroot, hroot]
    constructor
    · rintro rfl; exact .refl a
    · intro h
      induction h with
      | rel hp => exact hp.elim
      | refl a => rfl
      | symm _ ih => exact ih.symm
      | trans _ _ ih1 ih2 => exact ih1.trans ih2
  · intro a e
    unfold evidence
    rw [dataAt_setM, hd]
    have : ({} : Forest).data.get (DS.rootOf (vs.foldl (fun (f : Forest) v => f.insert v) {}) a)
        = none := DS.get_empty _
    rw [this]
    simp

/-- **Semantic characterisation.** For permutation orders, `initForest` returns a forest
whose classes are the equivalence closure of the input equalities and whose evidence, per class,
is the set of the non-`Equal` judgements on the members of the class. -/
theorem initForest_rep {o : Orders} (ho : OrdersOk o) (vars : List Nat) (infs : Nat → List TE) :
    ∃ f, initForest o vars infs = .ok f ∧ Rep f (fun a x => a ∈ vars ∧ x ∈ infs a) := by
  rw [initForest_eq]
  obtain ⟨f, e, r⟩ := rep_foldlM (fun (f : Forest) v => (o.tes (infs v)).foldlM (initStep v) f)
    (fun v a x => a = v ∧ x ∈ o.tes (infs v))
    (fun f P v h => by
      obtain ⟨f', e', r'⟩ := rep_foldlM (initStep v) (fun e a x => a = v ∧ x = e)
        (fun f P e h => rep_initStep h v e) (o.tes (infs v)) f P h
      exact ⟨f', e', r'.congr (fun a x => or_congr Iff.rfl
        ⟨fun ⟨e, he, ha, hx⟩ => ⟨ha, hx ▸ he⟩, fun ⟨ha, hx⟩ => ⟨x, hx, ha, rfl⟩⟩)⟩)
    (o.vars vars) _ _ (rep_start (o.vars vars))
  refine ⟨f, e, r.congr (fun a x => ?_)⟩
  simp only [false_or]
  constructor
  · rintro ⟨v, hv, rfl, hx⟩; exact ⟨(ho.1 vars).mem_iff.mp hv, (ho.2.1 _).mem_iff.mp hx⟩
  · rintro ⟨ha, hx⟩; exact ⟨a, (ho.1 vars).mem_iff.mpr ha, rfl, (ho.2.1 _).mem_iff.mpr hx⟩

/-- If two inference functions have the same members for every variable, then for any
two (permutation) iteration orders `initForest` returns forests with the same partition and, per
class, the same evidence as sets.  (Duplicate-freeness of the inputs is not needed.) -/
theorem initForest_mem_congr {o o' : Orders} (ho : OrdersOk o) (ho' : OrdersOk o')
    (vars : List Nat) (infs infs' : Nat → List TE)
    (hmem : ∀ v e, e ∈ infs v ↔ e ∈ infs' v) :
    ∃ f f', initForest o vars infs = .ok f ∧ initForest o' vars infs' = .ok f' ∧
      (∀ a b, sameClass f a b ↔ sameClass f' a b) ∧
      (∀ a e, e ∈ evidence f a ↔ e ∈ evidence f' a) := by
  obtain ⟨f, e, r⟩ := initForest_rep ho vars infs
  obtain ⟨f', e', r'⟩ := initForest_rep ho' vars infs'
  have r'' : Rep f' (fun a x => a ∈ vars ∧ x ∈ infs a) :=
    r'.congr (fun a x => by rw [hmem])
  refine ⟨f, f', e, e', fun a b => ?_, fun a x => ?_⟩
  · rw [r.part, r''.part]
  · rw [r.data, r''.data]

/-- Reordering the judgements (hence: applying the inference rules in another order)
and changing every hash-iteration order leaves the initial forest's partition and per-class
evidence unchanged. -/
theorem initForest_judgement_order {o o' : Orders} (ho : OrdersOk o) (ho' : OrdersOk o')
    (vars : List Nat) {js js' : List (Nat × TE)} (hp : js.Perm js') :
    ∃ f f',
      initForest o vars (fun v => ((infSets js).lookup v).getD []) = .ok f ∧
      initForest o' vars (fun v => ((infSets js').lookup v).getD []) = .ok f' ∧
      (∀ a b, sameClass f a b ↔ sameClass f' a b) ∧
      (∀ a e, e ∈ evidence f a ↔ e ∈ evidence f' a) :=
  initForest_mem_congr ho ho' vars _ _ (fun v e => infSets_perm_mem hp v e)

/-! ## Polling in the unification loop (C13)

`src/tc/unification.rs:75-128`: the body runs once per class returned by `forest.sets()`; at the
top of the body the watchdog is polled iff `counter % every = 0`; classes without evidence
`continue`; only classes holding evidence reach `counter += 1`. -/

/-- `(number of polls, final counter)` of the loop run over `flags` (one flag per class: does the
class hold evidence?) starting with `counter`. -/
def pollsOf (every : Nat) : List Bool → Nat → Nat × Nat
  | [], c => (0, c)
  | b :: bs, c =>
    let r := pollsOf every bs (if b then c + 1 else c)
    ((if c % every = 0 then 1 else 0) + r.1, r.2)

/-- The flags of the classes a round iterates over. -/
def classFlags (f : Forest) : List Bool := (f.sets setM).2.map (fun p => !p.2.isEmpty)

/-! ### what `round` counts -/

theorem roundStep_counts {o : Orders} {acc acc' : RoundAcc} {p : Nat × List TE}
    (h : roundStep o acc p = .ok acc') :
    acc'.polls = acc.polls + 1 ∧
      acc'.counter = acc.counter + (if (!p.2.isEmpty) = true then 1 else 0) := by
  rcases roundStep_cases h with ⟨hnil, rfl⟩ | ⟨hne, cur, nx, eqs, js, nvs, f', _, _, rfl⟩
  · simp [hnil]
  · have : p.2.isEmpty = false := by
      cases hp : p.2 with
      | nil => exact absurd hp hne
      | cons _ _ => rfl
    simp [this]

theorem roundLoop_counts {o : Orders} (l : List (Nat × List TE)) :
    ∀ acc acc', l.foldlM (roundStep o) acc = .ok acc' →
      acc'.polls = acc.polls + l.length ∧
        acc'.counter = acc.counter + (l.map (fun p => !p.2.isEmpty)).count true := by
  induction l with
  | nil =>
    intro acc acc' h
    injection h with h; subst h; simp
  | cons p l ih =>
    intro acc acc' h
    rw [List.foldlM_cons] at h
    cases e1 : roundStep o acc p with
    | error e => rw [e1] at h; cases h
    | ok acc1 =>
      rw [e1] at h
      obtain ⟨a1, a2⟩ := roundStep_counts e1
      obtain ⟨b1, b2⟩ := ih acc1 acc' h
      rw [b1, b2, a1, a2, List.map_cons, List.count_cons, List.length_cons]
      constructor
      · omega
      · cases hb : (!p.2.isEmpty) <;> simp <;> omega

theorem roundTail_counts {o : Orders} {acc acc' : RoundAcc} (h : roundTail o acc = .ok acc') :
    acc'.polls = acc.polls ∧ acc'.counter = acc.counter := by
  unfold roundTail at h
  split at h
  · cases h
  · split at h
    · cases h
    · injection h with h; subst h; exact ⟨rfl, rfl⟩

/-- In one round the model's `polls` field grows by the number of classes (every
iteration reaches the polling check) and `counter` by the number of classes that hold evidence.
No assumption on the orders. -/
theorem round_counts {o : Orders} {f : Forest} {next counter : Nat} {acc : RoundAcc}
    (h : round o f next counter = .ok acc) :
    acc.polls = (f.sets setM).2.length ∧
      acc.counter = counter + (f.sets setM).2.countP (fun p => !p.2.isEmpty) ∧
      acc.polls = (classFlags f).length ∧
      acc.counter = counter + (classFlags f).count true := by
  rw [round_eq] at h
  split at h
  · cases h
  · rename_i acc0 e0
    obtain ⟨a1, a2⟩ := roundLoop_counts _ _ _ e0
    obtain ⟨b1, b2⟩ := roundTail_counts h
    simp only [Nat.zero_add] at a1
    have hc : (classFlags f).count true = (f.sets setM).2.countP (fun p => !p.2.isEmpty) := by
      unfold classFlags
      rw [List.count_eq_countP, List.countP_map]
      congr 1
      funext p
      simp
    refine ⟨by rw [b1, a1], ?_, by rw [b1, a1]; simp [classFlags], by rw [b2, a2]; rfl⟩
    rw [b2, a2, ← hc]; rfl

/-! ### the polling discipline -/

/-- The counter advances by the number of evidence-holding classes. -/
theorem pollsOf_counter (every : Nat) (flags : List Bool) (c : Nat) :
    (pollsOf every flags c).2 = c + flags.count true := by
  induction flags generalizing c with
  | nil => simp [pollsOf]
  | cons b bs ih =>
    simp only [pollsOf, ih, List.count_cons]
    cases b <;> simp <;> omega

/-- **Upper bound.** At most one poll per iteration. -/
theorem pollsOf_le_length (every : Nat) (flags : List Bool) (c : Nat) :
    (pollsOf every flags c).1 ≤ flags.length := by
  induction flags generalizing c with
  | nil => simp [pollsOf]
  | cons b bs ih =>
    simp only [pollsOf, List.length_cons]
    have := ih (if b = true then c + 1 else c)
    split <;> omega

/-- With a polling interval of one every iteration polls. -/
theorem pollsOf_one (flags : List Bool) (c : Nat) : (pollsOf 1 flags c).1 = flags.length := by
  induction flags generalizing c with
  | nil => simp [pollsOf]
  | cons b bs ih =>
    simp only [pollsOf, List.length_cons, Nat.mod_one, if_true, ih]
    omega

/-- **Lower bound, counting form.** Every multiple of `every` the counter passes is
polled: the loop polls at least as often as a plain monitored loop (`Poll.pollCnt`) with one
iteration per evidence-holding class. -/
theorem pollsOf_ge_pollCnt (every : Nat) (flags : List Bool) (c : Nat) :
    Poll.pollCnt every c (flags.count true) ≤ (pollsOf every flags c).1 := by
  induction flags generalizing c with
  | nil => simp [pollsOf, Poll.pollCnt]
  | cons b bs ih =>
    cases b with
    | false =>
      have := ih c
      simp only [pollsOf, List.count_cons]
      simp only [Bool.false_eq_true, if_false] at this ⊢
      have e : (false == true) = false := rfl
      simp only [e, Bool.false_eq_true, if_false, Nat.add_zero]
      omega
    | true =>
      have := ih (c + 1)
      simp only [pollsOf, List.count_cons, BEq.rfl, if_true, Poll.pollCnt]
      omega

/-- closed form of the lower bound: `⌈(c + t) / every⌉ - ⌈c / every⌉ ≤ polls` -/
theorem pollsOf_ge_cdiv {every : Nat} (hev : 0 < every) (flags : List Bool) (c : Nat) :
    (c + flags.count true + every - 1) / every - (c + every - 1) / every ≤
      (pollsOf every flags c).1 := by
  have h1 := pollsOf_ge_pollCnt every flags c
  have h2 := Poll.pollCnt_add_cdiv hev c (flags.count true)
  unfold Poll.cdiv at h2
  omega

/-- number of evidence-holding classes that can still be processed before the next poll -/
def toNextPoll (every c : Nat) : Nat := (every - c % every) % every

theorem toNextPoll_of_mod_zero {every c : Nat} (h : c % every = 0) : toNextPoll every c = 0 := by
  unfold toNextPoll; rw [h, Nat.sub_zero, Nat.mod_self]

theorem toNextPoll_lt {every : Nat} (hev : 0 < every) (c : Nat) : toNextPoll every c < every :=
  Nat.mod_lt _ hev

theorem toNextPoll_succ {every : Nat} (hev : 0 < every) (c : Nat) :
    toNextPoll every (c + 1) + 1 = toNextPoll every c + (if c % every = 0 then every else 0) := by
  unfold toNextPoll
  have h1 : (c + 1) % every = (c % every + 1) % every := by
    rw [Nat.add_mod c 1 every, Nat.add_mod (c % every) 1 every, Nat.mod_mod]
  rw [h1]
  have hr := Nat.mod_lt c hev
  generalize c % every = r at hr
  by_cases hlt : r + 1 < every
  · rw [Nat.mod_eq_of_lt hlt, Nat.mod_eq_of_lt (by omega : every - (r + 1) < every)]
    by_cases hr0 : r = 0
    · subst hr0
      rw [Nat.sub_zero, Nat.mod_self, if_pos rfl]; omega
    · rw [if_neg hr0, Nat.mod_eq_of_lt (by omega : every - r < every)]; omega
  · have hre : r + 1 = every := by omega
    rw [hre, Nat.mod_self, Nat.sub_zero, Nat.mod_self]
    by_cases hr0 : r = 0
    · subst hr0
      have : every = 1 := by omega
      subst this
      simp
    · rw [if_neg hr0]
      have : every - r = 1 := by omega
      rw [this, Nat.mod_eq_of_lt (by omega : 1 < every)]

/-- **Lower bound.** Between two consecutive polls at most `every` evidence-holding
classes are processed: the number of such classes is at most `every` per poll, plus the
`toNextPoll every c = (every - c % every) % every < every` classes that fit before the first
poll becomes due. -/
theorem pollsOf_lower {every : Nat} (hev : 0 < every) (flags : List Bool) (c : Nat) :
    flags.count true ≤ (pollsOf every flags c).1 * every + toNextPoll every c := by
  induction flags generalizing c with
  | nil => simp
  | cons b bs ih =>
    cases b with
    | false =>
      have := ih c
      have e : (false == true) = false := rfl
      simp only [pollsOf, List.count_cons, e, Bool.false_eq_true, if_false, Nat.add_zero]
      rw [Nat.add_mul]
      omega
    | true =>
      have h1 := ih (c + 1)
      have h2 := toNextPoll_succ hev c
      simp only [pollsOf, List.count_cons, BEq.rfl, if_true]
      rw [Nat.add_mul]
      by_cases hc : c % every = 0
      · rw [if_pos hc] at h2 ⊢
        omega
      · rw [if_neg hc] at h2 ⊢
        omega

/-- … in particular when the counter starts at a multiple of the interval (as it does in the
first round, where it is `0`): `polls * every ≥ number of evidence-holding classes`. -/
theorem pollsOf_lower_aligned {every : Nat} (hev : 0 < every) (flags : List Bool) (c : Nat)
    (hc : c % every = 0) : flags.count true ≤ (pollsOf every flags c).1 * every := by
  have := pollsOf_lower hev flags c
  rw [toNextPoll_of_mod_zero hc] at this
  exact this

/-- … and in general fewer than `every` classes more than that. -/
theorem pollsOf_lower_any {every : Nat} (hev : 0 < every) (flags : List Bool) (c : Nat) :
    flags.count true < ((pollsOf every flags c).1 + 1) * every := by
  have h1 := pollsOf_lower hev flags c
  have h2 := toNextPoll_lt hev c
  rw [Nat.add_mul]
  omega

/-- The bound with `c % every` as the slack in place of `toNextPoll every c` is false when the
counter does not start at a multiple of the interval: five evidence-holding classes from counter `1` with
interval `10` are processed without any poll. -/
example : ¬ ((pollsOf 10 [true, true, true, true, true] 1).1 * 10 + (1 % 10) ≥
    [true, true, true, true, true].count true) := by decide

/-- If every class holds evidence the loop is a plain monitored loop. -/
theorem pollsOf_all_true (every n c : Nat) :
    (pollsOf every (List.replicate n true) c).1 = Poll.pollCnt every c n := by
  induction n generalizing c with
  | zero => simp [pollsOf, Poll.pollCnt]
  | succ n ih =>
    simp only [List.replicate_succ, pollsOf, if_true, ih, Poll.pollCnt]

/-- Classes without evidence do not advance the counter, so a run of them at a counter that is a
multiple of the interval polls at every iteration. -/
theorem pollsOf_all_false (every n c : Nat) :
    pollsOf every (List.replicate n false) c = ((if c % every = 0 then n else 0), c) := by
  induction n generalizing c with
  | zero => simp [pollsOf]
  | succ n ih =>
    simp only [List.replicate_succ, pollsOf, Bool.false_eq_true, if_false, ih]
    split <;> simp <;> omega

/-- **Model vs. code.** For a round of the model: the final counter is the one `pollsOf`
computes on the round's class flags; the model's `polls` field (iterations reaching the check) is
an upper bound for the actual watchdog calls, exact when `every = 1`; and the watchdog calls obey
the lower bound. -/
theorem round_pollsOf {o : Orders} {f : Forest} {next counter : Nat} {acc : RoundAcc}
    (every : Nat) (h : round o f next counter = .ok acc) :
    (pollsOf every (classFlags f) counter).2 = acc.counter ∧
      (pollsOf every (classFlags f) counter).1 ≤ acc.polls ∧
      (every = 1 → (pollsOf every (classFlags f) counter).1 = acc.polls) ∧
      (0 < every → acc.counter - counter ≤
        (pollsOf every (classFlags f) counter).1 * every + toNextPoll every counter) := by
  obtain ⟨_, _, h3, h4⟩ := round_counts h
  refine ⟨by rw [pollsOf_counter, h4], by rw [h3]; exact pollsOf_le_length _ _ _, ?_, ?_⟩
  · rintro rfl; rw [pollsOf_one, h3]
  · intro hev
    have := pollsOf_lower hev (classFlags f) counter
    rw [h4]; omega

/-! ### Non-vacuity -/
example : pollsOf 3 [true, false, true, true, true, false] 0 = (2, 4) := by decide
example : pollsOf 3 [false, false, true] 3 = (3, 4) := by decide
example : infSets [(0, .equal 1), (2, .bytes), (1, .equal 1), (2, .bytes)] =
    [(1, [.equal 0]), (0, [.equal 1]), (2, [.bytes])] := by decide

end SLE.OrderFacts
