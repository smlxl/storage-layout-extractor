import SLE.Lemmas.VMExecFacts
/-!
C03 (the bounds on visits and forks) and C08 (control transfers) for the control loop of `SLE.VM`.
The loop is reasoned about through three principles, and no proof outside this file unfolds
`step`, `midOk` or `run`: `step_cases` (the five ways an iteration can go), `midOk_cases` (the four
shapes of the state after an `Ok`, each with what `execOp` requested and did not request) and
`run_induction` (what every iteration keeps, the run keeps).
`execOp` is opaque here: only `execOp_jumpTo_jumpdest`, `execOp_forkTo_jumpdest` and their
refinements from `VMExecFacts` are used.
-/
namespace SLE.VM
open SLE SLE.SV SLE.Disasm

/-! ### list helpers -/

theorem bump_length (l : List Nat) (i : Nat) : (bump l i).length = l.length := by
  simp [bump]

theorem bump_getD (l : List Nat) (i j : Nat) :
    (bump l i).getD j 0 = if i = j ∧ i < l.length then l.getD i 0 + 1 else l.getD j 0 := by
  simp only [bump, List.getD_eq_getElem?_getD, List.getElem?_set]
  by_cases hij : i = j
  · subst hij
    by_cases hl : i < l.length
    · simp [hl]
    · have : l[i]? = none := List.getElem?_eq_none (by omega)
      simp [hl]
  · simp [hij]

theorem bump_getD_le (l : List Nat) (i j : Nat) : (bump l i).getD j 0 ≤ l.getD j 0 + 1 := by
  rw [bump_getD]; split
  · rename_i h; rw [h.1]; omega
  · omega

theorem bump_getD_ne (l : List Nat) {i j : Nat} (h : i ≠ j) : (bump l i).getD j 0 = l.getD j 0 := by
  rw [bump_getD, if_neg (fun hh => h hh.1)]

theorem bump_getD_self (l : List Nat) {i : Nat} (h : i < l.length) :
    (bump l i).getD i 0 = l.getD i 0 + 1 := by
  rw [bump_getD, if_pos ⟨rfl, h⟩]

theorem bump_sum : ∀ (l : List Nat) (i : Nat), i < l.length → (bump l i).sum = l.sum + 1
  | [], i, h => by simp at h
  | x :: xs, 0, _ => by simp [bump]; omega
  | x :: xs, i + 1, h => by
    have ih := bump_sum xs i (by simpa using h)
    simp only [bump, List.set_cons_succ, List.getD_cons_succ, List.sum_cons] at ih ⊢
    omega

theorem getD_lt_length_of_ne_zero {l : List Nat} {i : Nat} (h : l.getD i 0 ≠ 0) : i < l.length := by
  false_or_by_contra
  rename_i hn
  apply h
  rw [List.getD_eq_getElem?_getD, List.getElem?_eq_none (by omega)]
  rfl

/-- A list bounded pointwise by `F` and supported on the positions where `code` holds `x`
sums to at most `F * #x`. -/
theorem sum_le_mul_count {α : Type} [DecidableEq α] (x : α) (F : Nat) :
    ∀ (code : List α) (l : List Nat), l.length = code.length →
      (∀ off, l.getD off 0 ≤ F) → (∀ off, l.getD off 0 ≠ 0 → code[off]? = some x) →
      l.sum ≤ F * (code.filter (· == x)).length
  | [], [], _, _, _ => by simp
  | [], _ :: _, h, _, _ => by simp at h
  | _ :: _, [], h, _, _ => by simp at h
  | c :: code, a :: l, hlen, hle, hsupp => by
    have ih := sum_le_mul_count x F code l (by simpa using hlen)
      (fun off => by simpa using hle (off + 1))
      (fun off h => by simpa using hsupp (off + 1) (by simpa using h))
    have h0 : a ≤ F := hle 0
    have hs0 : a ≠ 0 → c = x := fun hne => by simpa using hsupp 0 hne
    rw [List.sum_cons, List.filter_cons]
    by_cases hc : c = x
    · rw [if_pos (by simpa using hc), List.length_cons, Nat.mul_succ]
      omega
    · have ha : a = 0 := Decidable.byContradiction fun hne => hc (hs0 hne)
      rw [if_neg (by simpa using hc), ha]
      omega

/-! ### the two halves of `step` -/

/-- The output of the instruction the head thread stands on. -/
def opOut (cfg : Cfg) (code : List Instr) (s : VMS) (t : Thread) (ins : Instr) : OpOut :=
  execOp { cfg := cfg, ip := t.ip, codeLen := code.length } code ins t.d s.ctr

/-- The state handed to `advance` when the instruction returned `Ok`. -/
def midOk (cfg : Cfg) (s : VMS) (t : Thread) (rest : List Thread) (ins : Instr) (o : OpOut) : VMS :=
  let t1 : Thread := { t with visited := bump t.visited t.ip }
  let t2 : Thread := { t1 with d := o.d, gas := t1.gas + minGas ins }
  let s1 : VMS := { s with ctr := o.ctr, killed := s.killed || o.kill }
  match o.jumpTo with
  | some tgt => { s1 with queue := { t2 with ip := tgt } :: rest }
  | none =>
    match o.forkTo with
    | some tgt =>
      let atVisitLimit := t2.visited.getD tgt 0 ≥ cfg.iterLimit
      if !atVisitLimit && s1.forks.getD tgt 0 < cfg.forkLimit then
        let child : Thread := { t2 with ip := tgt, gas := t1.gas, d := { t2.d with forkPoint := t.ip } }
        { s1 with queue := (t2 :: rest) ++ [child], forks := bump s1.forks tgt, created := s1.created + 1 }
      else { s1 with queue := t2 :: rest }
    | none =>
      match o.softErr with
      | some e =>
        { s1 with queue := t2 :: rest,
                  errors := if cfg.permissive then s1.errors else s1.errors ++ [(t.ip, e)] }
      | none => { s1 with queue := t2 :: rest }

/-- The state handed to `advance` when the instruction returned `Err(e)` (not a panic). -/
def midErr (cfg : Cfg) (s : VMS) (t : Thread) (rest : List Thread) (o : OpOut) (e : XErr) : VMS :=
  let t1 : Thread := { t with visited := bump t.visited t.ip }
  let errs := if e.isJumpKind && cfg.permissive then s.errors else s.errors ++ [(t.ip, e)]
  { s with queue := { t1 with d := o.d } :: rest, ctr := o.ctr, errors := errs, killed := true }

/-- `advance` retires the head thread. -/
def retire (cfg : Cfg) (code : List Instr) (t : Thread) (killed : Bool) : Bool :=
  ((decide (t.ip + 1 ≥ code.length) || decide (t.visited.getD (t.ip + 1) 0 ≥ cfg.iterLimit)) ||
    decide (t.gas > cfg.gasLimit)) || killed

/-- The head thread after its instruction returned `Ok`. -/
def after (t : Thread) (ins : Instr) (o : OpOut) : Thread :=
  { ip := t.ip, visited := bump t.visited t.ip, gas := t.gas + minGas ins, d := o.d }

/-- the JUMPI fork test -/
def forkOk (cfg : Cfg) (visited forks : List Nat) (tgt : Nat) : Bool :=
  !decide (visited.getD tgt 0 ≥ cfg.iterLimit) && decide (forks.getD tgt 0 < cfg.forkLimit)

section
variable {cfg : Cfg} {code : List Instr} {s : VMS} {t : Thread} {rest : List Thread} {ins : Instr}
  {o : OpOut}

theorem advance_nil (hq : s.queue = []) :
    advance cfg code s = { s with aborted := some .invalidStep } := by
  unfold advance; rw [hq]

theorem advance_cons (hq : s.queue = t :: rest) :
    advance cfg code s =
      if retire cfg code t s.killed then
        { s with queue := rest, stored := s.stored ++ [t], killed := false,
                 errors := if t.gas > cfg.gasLimit then
                   insertLocated s.errors (t.ip, .gasLimitExceeded) else s.errors }
      else { s with queue := { t with ip := t.ip + 1 } :: rest } := by
  unfold advance; rw [hq]; rfl

theorem step_nil (hq : s.queue = []) : step cfg code s = s := by
  unfold step; rw [hq]

theorem step_oob (hq : s.queue = t :: rest) (hi : code[t.ip]? = none) :
    step cfg code s = { s with aborted := some .instructionPointerOutOfBounds } := by
  unfold step; rw [hq]; dsimp only; rw [hi]

/-- `step` on a head thread that stands on an instruction: by what `execOp` returned. -/
theorem step_some (hq : s.queue = t :: rest) (hi : code[t.ip]? = some ins) :
    step cfg code s =
      match (opOut cfg code s t ins).err with
      | some (.panic site) => { s with aborted := some (.panic site) }
      | some e => advance cfg code (midErr cfg s t rest (opOut cfg code s t ins) e)
      | none => advance cfg code (midOk cfg s t rest ins (opOut cfg code s t ins)) := by
  unfold step; rw [hq]; dsimp only; rw [hi]; rfl

theorem step_ok (hq : s.queue = t :: rest) (hi : code[t.ip]? = some ins)
    (he : (opOut cfg code s t ins).err = none) :
    step cfg code s = advance cfg code (midOk cfg s t rest ins (opOut cfg code s t ins)) := by
  rw [step_some hq hi, he]

theorem step_panic {site : String} (hq : s.queue = t :: rest) (hi : code[t.ip]? = some ins)
    (he : (opOut cfg code s t ins).err = some (.panic site)) :
    step cfg code s = { s with aborted := some (.panic site) } := by
  rw [step_some hq hi, he]

theorem step_err {e : XErr} (hq : s.queue = t :: rest) (hi : code[t.ip]? = some ins)
    (he : (opOut cfg code s t ins).err = some e) (hp : ∀ site, e ≠ .panic site) :
    step cfg code s = advance cfg code (midErr cfg s t rest (opOut cfg code s t ins) e) := by
  rw [step_some hq hi, he]
  cases e with
  | panic site => exact absurd rfl (hp site)
  | _ => rfl

/-- The five ways one iteration can go. Whatever is shown of the five states holds of
`step cfg code s`. -/
theorem step_cases {motive : VMS → Prop}
    (idle : s.queue = [] → motive s)
    (oob : ∀ t rest, s.queue = t :: rest → code[t.ip]? = none →
      motive { s with aborted := some .instructionPointerOutOfBounds })
    (panic : ∀ t rest ins site, s.queue = t :: rest → code[t.ip]? = some ins →
      (opOut cfg code s t ins).err = some (.panic site) →
      motive { s with aborted := some (.panic site) })
    (ok : ∀ t rest ins, s.queue = t :: rest → code[t.ip]? = some ins →
      (opOut cfg code s t ins).err = none →
      motive (advance cfg code (midOk cfg s t rest ins (opOut cfg code s t ins))))
    (err : ∀ t rest ins e, s.queue = t :: rest → code[t.ip]? = some ins →
      (opOut cfg code s t ins).err = some e → (∀ site, e ≠ .panic site) →
      motive (advance cfg code (midErr cfg s t rest (opOut cfg code s t ins) e))) :
    motive (step cfg code s) := by
  cases hq : s.queue with
  | nil => rw [step_nil hq]; exact idle hq
  | cons t rest =>
    cases hi : code[t.ip]? with
    | none => rw [step_oob hq hi]; exact oob t rest hq hi
    | some ins =>
      cases he : (opOut cfg code s t ins).err with
      | none => rw [step_ok hq hi he]; exact ok t rest ins hq hi he
      | some e =>
        by_cases hp : ∃ site, e = .panic site
        · obtain ⟨site, rfl⟩ := hp
          rw [step_panic hq hi he]; exact panic t rest ins site hq hi he
        · have hp' : ∀ site, e ≠ .panic site := fun site hs => hp ⟨site, hs⟩
          rw [step_err hq hi he hp']; exact err t rest ins e hq hi he hp'

theorem forkOk_iff {visited forks : List Nat} {tgt : Nat} :
    forkOk cfg visited forks tgt = true ↔
      visited.getD tgt 0 < cfg.iterLimit ∧ forks.getD tgt 0 < cfg.forkLimit := by
  simp [forkOk]

/-- The four shapes of the state handed to `advance` after an `Ok`: a JUMP moves the head thread,
a JUMPI that passes the fork test enqueues a child behind the queue, a soft error is recorded
(strict mode only), and otherwise (a JUMPI that does not fork included) only the head thread
changes. Each arm is told what `execOp` requested and what it did not. -/
theorem midOk_cases {motive : VMS → Prop}
    (jump : ∀ tgt, o.jumpTo = some tgt →
      motive { s with ctr := o.ctr, killed := s.killed || o.kill,
                      queue := { after t ins o with ip := tgt } :: rest })
    (fork : ∀ tgt, o.jumpTo = none → o.forkTo = some tgt →
      forkOk cfg (bump t.visited t.ip) s.forks tgt = true →
      motive { s with ctr := o.ctr, killed := s.killed || o.kill,
                      queue := after t ins o :: rest ++
                        [{ ip := tgt, visited := bump t.visited t.ip, gas := t.gas,
                           d := { o.d with forkPoint := t.ip } }],
                      forks := bump s.forks tgt, created := s.created + 1 })
    (soft : ∀ e, o.jumpTo = none → o.forkTo = none → o.softErr = some e →
      motive { s with ctr := o.ctr, killed := s.killed || o.kill, queue := after t ins o :: rest,
                      errors := if cfg.permissive then s.errors else s.errors ++ [(t.ip, e)] })
    (plain : o.jumpTo = none →
      (∀ tgt, o.forkTo = some tgt → forkOk cfg (bump t.visited t.ip) s.forks tgt = false) →
      motive { s with ctr := o.ctr, killed := s.killed || o.kill,
                      queue := after t ins o :: rest }) :
    motive (midOk cfg s t rest ins o) := by
  unfold midOk
  dsimp only
  split
  · rename_i tgt hj
    exact jump tgt hj
  · rename_i hj
    split
    · rename_i tgt hf
      split
      · rename_i hc
        exact fork tgt hj hf hc
      · rename_i hc
        exact plain hj fun tgt' hf' => by cases hf.symm.trans hf'; exact Bool.eq_false_iff.mpr hc
    · rename_i hf
      split
      · rename_i e he
        exact soft e hj hf he
      · exact plain hj fun tgt' hf' => nomatch hf.symm.trans hf'

/-! ### `run` -/

theorem run_stop (h : (s.queue.isEmpty || s.aborted.isSome) = true) :
    ∀ fuel, run cfg code fuel s = s
  | 0 => rfl
  | fuel + 1 => by rw [run, if_pos h]

theorem run_succ (h : ¬ (s.queue.isEmpty || s.aborted.isSome) = true) (fuel : Nat) :
    run cfg code (fuel + 1) s = run cfg code fuel (step cfg code s) := by
  rw [run, if_neg h]

/-- What every iteration keeps, the run keeps. -/
theorem run_induction {P : VMS → Prop} (hstep : ∀ s, P s → P (step cfg code s)) :
    ∀ (fuel : Nat) (s : VMS), P s → P (run cfg code fuel s)
  | 0, _, h => h
  | fuel + 1, s, h => by
    by_cases hc : (s.queue.isEmpty || s.aborted.isSome) = true
    · rw [run_stop hc]; exact h
    · rw [run_succ hc]; exact run_induction hstep fuel _ (hstep s h)

end

/-! ### membership in the sorted error buffer -/

theorem mem_insertLocated_go (x y : Nat × XErr) :
    ∀ l : List (Nat × XErr), y ∈ insertLocated.go x l ↔ y = x ∨ y ∈ l
  | [] => by simp [insertLocated.go]
  | z :: r => by
    rw [insertLocated.go]
    split
    · simp
    · simp only [List.mem_cons, mem_insertLocated_go x y r]
      constructor
      · rintro (h | h | h) <;> simp [h]
      · rintro (h | h | h) <;> simp [h]

theorem mem_foldl_insertLocated_go (y : Nat × XErr) :
    ∀ (l acc : List (Nat × XErr)),
      y ∈ l.foldl (fun acc x => insertLocated.go x acc) acc ↔ y ∈ acc ∨ y ∈ l
  | [], acc => by simp
  | x :: l, acc => by
    simp only [List.foldl_cons, mem_foldl_insertLocated_go y l, mem_insertLocated_go, List.mem_cons]
    constructor
    · rintro ((h | h) | h) <;> simp [h]
    · rintro (h | h | h) <;> simp [h]

theorem mem_insertLocated (es : List (Nat × XErr)) (e y : Nat × XErr) :
    y ∈ insertLocated es e ↔ y ∈ es ∨ y = e := by
  show y ∈ List.foldl (fun acc x => insertLocated.go x acc) [] (es ++ [e]) ↔ _
  rw [mem_foldl_insertLocated_go]
  simp

/-! ### the invariant (C03) -/

/-- (a) the visit counters of a thread, queued or stored. -/
structure ThreadOk (cfg : Cfg) (code : List Instr) (t : Thread) : Prop where
  len : t.visited.length = code.length
  le : ∀ off, t.visited.getD off 0 ≤ cfg.iterLimit

/-- (b) a queued thread may still execute the instruction it stands on. -/
structure Runnable (cfg : Cfg) (code : List Instr) (t : Thread) : Prop where
  ip : t.ip < code.length
  lt : t.visited.getD t.ip 0 < cfg.iterLimit
  gas : t.gas ≤ cfg.gasLimit

/-- (c) the fork tracker. -/
structure ForksOk (cfg : Cfg) (code : List Instr) (forks : List Nat) : Prop where
  len : forks.length = code.length
  le : ∀ off, forks.getD off 0 ≤ cfg.forkLimit
  supp : ∀ off, forks.getD off 0 ≠ 0 → code[off]? = some (.op 0x5b)

structure Inv (cfg : Cfg) (code : List Instr) (s : VMS) : Prop where
  /-- (a) -/
  queueOk : ∀ t ∈ s.queue, ThreadOk cfg code t
  storedOk : ∀ t ∈ s.stored, ThreadOk cfg code t
  /-- (b) -/
  runnable : ∀ t ∈ s.queue, Runnable cfg code t
  /-- (c) -/
  forks : ForksOk cfg code s.forks
  /-- (d) -/
  created : s.created = s.queue.length + s.stored.length
  createdForks : s.created = 1 + s.forks.sum
  /-- (e) -/
  killed : s.killed = false
  /-- every recorded error is located inside the code -/
  errLoc : ∀ x ∈ s.errors, x.1 < code.length

/-- What holds of the state handed to `advance`: the head thread `t` has executed its
instruction (its counters are within bounds but it need not be runnable), everything else is
as in `Inv`. -/
structure PreInv (cfg : Cfg) (code : List Instr) (s : VMS) (t : Thread) (rest : List Thread) :
    Prop where
  hq : s.queue = t :: rest
  hip : t.ip < code.length
  headOk : ThreadOk cfg code t
  restOk : ∀ t' ∈ rest, ThreadOk cfg code t'
  restRun : ∀ t' ∈ rest, Runnable cfg code t'
  storedOk : ∀ t ∈ s.stored, ThreadOk cfg code t
  forks : ForksOk cfg code s.forks
  created : s.created = s.queue.length + s.stored.length
  createdForks : s.created = 1 + s.forks.sum
  errLoc : ∀ x ∈ s.errors, x.1 < code.length

section
variable {cfg : Cfg} {code : List Instr} {s s' : VMS} {t t' : Thread} {rest : List Thread}
  {o : OpOut}

theorem getD_replicate_zero (n off : Nat) : (List.replicate n 0).getD off 0 = 0 := by
  rw [List.getD_eq_getElem?_getD, List.getElem?_replicate]; split <;> rfl

theorem inv_init (hc : 0 < code.length) (hi : 0 < cfg.iterLimit) :
    Inv cfg code (initVM cfg code) := by
  refine ⟨fun t ht => ?_, (fun t ht => nomatch ht), fun t ht => ?_,
    ⟨List.length_replicate, fun off => ?_, fun off h => ?_⟩, rfl, ?_, rfl, (fun x hx => nomatch hx)⟩
  · rw [List.mem_singleton.mp ht]
    exact ⟨List.length_replicate, fun off => by rw [getD_replicate_zero]; exact Nat.zero_le _⟩
  · rw [List.mem_singleton.mp ht]
    exact ⟨hc, by rw [getD_replicate_zero]; exact hi, Nat.zero_le _⟩
  · rw [initVM, getD_replicate_zero]; exact Nat.zero_le _
  · exact absurd (getD_replicate_zero ..) h
  · simp [initVM, List.sum_replicate_nat]

theorem threadOk_bump (h : ThreadOk cfg code t) (hr : t.visited.getD t.ip 0 < cfg.iterLimit)
    (v : Thread) (hv : v.visited = bump t.visited t.ip) : ThreadOk cfg code v := by
  refine ⟨by rw [hv, bump_length]; exact h.len, fun off => ?_⟩
  rw [hv, bump_getD]
  split
  · omega
  · exact h.le off

theorem forksOk_bump {forks : List Nat} {tgt : Nat} (h : ForksOk cfg code forks)
    (hc : code[tgt]? = some (.op 0x5b)) (hlt : forks.getD tgt 0 < cfg.forkLimit) :
    ForksOk cfg code (bump forks tgt) := by
  refine ⟨by rw [bump_length]; exact h.len, fun off => ?_, fun off hne => ?_⟩
  · rw [bump_getD]
    split
    · omega
    · exact h.le off
  · by_cases ho : tgt = off
    · rw [← ho]; exact hc
    · rw [bump_getD_ne _ ho] at hne; exact h.supp off hne

/-- `advance` re-establishes the invariant. -/
theorem advance_inv (h : PreInv cfg code s t rest) : Inv cfg code (advance cfg code s) := by
  have hcr := h.created
  rw [h.hq] at hcr
  rw [advance_cons h.hq]
  split
  · -- retired
    refine ⟨h.restOk, ?_, h.restRun, h.forks, ?_, h.createdForks, rfl, fun x hx => ?_⟩
    · exact List.forall_mem_append.mpr ⟨h.storedOk, fun t' ht' => List.mem_singleton.mp ht' ▸ h.headOk⟩
    · simp only [List.length_append, List.length_cons, List.length_nil] at hcr ⊢
      omega
    · dsimp only at hx
      split at hx
      · rcases (mem_insertLocated _ _ _).mp hx with hx | hx
        · exact h.errLoc x hx
        · rw [hx]; exact h.hip
      · exact h.errLoc x hx
  · -- moves on
    rename_i hcond
    simp only [retire, Bool.or_eq_true, decide_eq_true_eq, not_or, Nat.not_le, Nat.not_lt,
      Bool.not_eq_true] at hcond
    obtain ⟨⟨⟨hlen, hvis⟩, hgas⟩, hk⟩ := hcond
    exact ⟨List.forall_mem_cons.mpr ⟨⟨h.headOk.len, h.headOk.le⟩, h.restOk⟩, h.storedOk,
      List.forall_mem_cons.mpr ⟨⟨hlen, hvis, hgas⟩, h.restRun⟩, h.forks, by simpa using hcr,
      h.createdForks, hk, h.errLoc⟩

/-- The state `s'` handed to `advance` is good when it is `s` with the head thread `t` replaced
by a `t'` that has counted its visit to `t.ip`, the other threads and the fork tracker being those
of `s`, and every new error located at `t.ip`. -/
theorem preInv_head (h : Inv cfg code s) (hq : s.queue = t :: rest)
    (hq' : s'.queue = t' :: rest) (hv : t'.visited = bump t.visited t.ip)
    (hip : t'.ip < code.length) (hst : s'.stored = s.stored) (hf : s'.forks = s.forks)
    (hc : s'.created = s.created) (he : ∀ x ∈ s'.errors, x ∈ s.errors ∨ x.1 = t.ip) :
    PreInv cfg code s' t' rest := by
  have hqueue := h.queueOk
  have hrunnable := h.runnable
  rw [hq] at hqueue hrunnable
  obtain ⟨htOk, hrestOk⟩ := List.forall_mem_cons.mp hqueue
  obtain ⟨htRun, hrestRun⟩ := List.forall_mem_cons.mp hrunnable
  refine ⟨hq', hip, threadOk_bump htOk htRun.lt t' hv, hrestOk, hrestRun, hst ▸ h.storedOk,
    hf ▸ h.forks, ?_, ?_, fun x hx => ?_⟩
  · rw [hc, hq', hst, h.created, hq]; rfl
  · rw [hc, hf]; exact h.createdForks
  · rcases he x hx with hx | hx
    · exact h.errLoc x hx
    · rw [hx]; exact htRun.ip

/-- The `Ok` half of `step` hands `advance` a good state, for ANY data effect `o` whose
control requests point at JUMPDESTs. -/
theorem midOk_preInv (ins : Instr) (h : Inv cfg code s) (hq : s.queue = t :: rest)
    (hj : ∀ tgt, o.jumpTo = some tgt → code[tgt]? = some (.op 0x5b))
    (hf : ∀ tgt, o.forkTo = some tgt → code[tgt]? = some (.op 0x5b)) :
    ∃ t' rest', PreInv cfg code (midOk cfg s t rest ins o) t' rest' := by
  have hlt : ∀ {tgt}, code[tgt]? = some (Instr.op 0x5b) → tgt < code.length :=
    fun hc => (List.getElem?_eq_some_iff.mp hc).1
  have hrun := h.runnable t (by rw [hq]; exact List.mem_cons_self ..)
  refine midOk_cases (motive := fun s' => ∃ t' rest', PreInv cfg code s' t' rest')
    (fun tgt hjt => ?_) (fun tgt _ hft hfk => ?_) (fun e _ _ _ => ?_) (fun _ _ => ?_)
  · exact ⟨_, rest, preInv_head h hq rfl rfl (hlt (hj tgt hjt)) rfl rfl rfl fun x hx => .inl hx⟩
  · -- the plain state with the child enqueued and its fork counted
    obtain ⟨hvis, hfk⟩ := forkOk_iff.mp hfk
    have htgt := hlt (hf tgt hft)
    have hp := preInv_head (s' := { s with queue := after t ins o :: rest }) h hq rfl rfl hrun.ip
      rfl rfl rfl fun x hx => .inl hx
    have hcr := hp.created
    refine ⟨_, _, rfl, hp.hip, hp.headOk, ?_, ?_, hp.storedOk, forksOk_bump h.forks (hf tgt hft) hfk,
      ?_, ?_, hp.errLoc⟩
    · exact List.forall_mem_append.mpr ⟨hp.restOk, fun t' ht' =>
        List.mem_singleton.mp ht' ▸ ⟨hp.headOk.len, hp.headOk.le⟩⟩
    · exact List.forall_mem_append.mpr ⟨hp.restRun, fun t' ht' =>
        List.mem_singleton.mp ht' ▸ ⟨htgt, hvis, hrun.gas⟩⟩
    · simp only [List.length_append, List.length_cons, List.length_nil] at hcr ⊢
      omega
    · dsimp only
      rw [bump_sum _ _ (by rw [h.forks.len]; exact htgt)]
      have := h.createdForks
      omega
  · refine ⟨_, rest, preInv_head h hq rfl rfl hrun.ip rfl rfl rfl fun x hx => ?_⟩
    dsimp only at hx
    split at hx
    · exact .inl hx
    · exact (List.mem_append.mp hx).imp_right fun hx => by rw [List.mem_singleton.mp hx]
  · exact ⟨_, rest, preInv_head h hq rfl rfl hrun.ip rfl rfl rfl fun x hx => .inl hx⟩

theorem midErr_preInv (o : OpOut) (e : XErr) (h : Inv cfg code s) (hq : s.queue = t :: rest) :
    ∃ t', PreInv cfg code (midErr cfg s t rest o e) t' rest := by
  refine ⟨_, preInv_head h hq rfl rfl (h.runnable t (by rw [hq]; exact List.mem_cons_self ..)).ip
    rfl rfl rfl fun x hx => ?_⟩
  simp only [midErr] at hx
  split at hx
  · exact .inl hx
  · exact (List.mem_append.mp hx).imp_right fun hx => by rw [List.mem_singleton.mp hx]

theorem inv_abort (h : Inv cfg code s) (a : Option XErr) : Inv cfg code { s with aborted := a } :=
  ⟨h.queueOk, h.storedOk, h.runnable, h.forks, h.created, h.createdForks, h.killed, h.errLoc⟩

/-- The invariant is preserved by EVERY step — also by one that aborts (a panic leaves the
state untouched except for `aborted`, which `Inv` does not mention). -/
theorem inv_step' (h : Inv cfg code s) : Inv cfg code (step cfg code s) := by
  refine step_cases (motive := Inv cfg code) (fun _ => h) (fun _ _ _ _ => inv_abort h _)
    (fun _ _ _ _ _ _ _ => inv_abort h _) (fun t rest ins hq _ _ => ?_) (fun t rest ins e hq _ _ _ => ?_)
  · obtain ⟨t', rest', hp⟩ := midOk_preInv ins h hq
      (fun tgt hh => execOp_jumpTo_jumpdest hh) (fun tgt hh => execOp_forkTo_jumpdest hh)
    exact advance_inv hp
  · obtain ⟨t', hp'⟩ := midErr_preInv (opOut cfg code s t ins) e h hq
    exact advance_inv hp'

end

theorem inv_step {cfg : Cfg} {code : List Instr} {s : VMS} (h : Inv cfg code s)
    (_ : s.aborted = none) : Inv cfg code (step cfg code s) := inv_step' h

theorem inv_run {cfg : Cfg} {code : List Instr} (fuel : Nat) (h : Inv cfg code (initVM cfg code)) :
    Inv cfg code (run cfg code fuel (initVM cfg code)) :=
  run_induction (P := Inv cfg code) (fun _ => inv_step') fuel _ h

theorem forks_sum_le {cfg : Cfg} {code : List Instr} {forks : List Nat} (h : ForksOk cfg code forks) :
    forks.sum ≤ cfg.forkLimit * (code.filter (· == .op 0x5b)).length :=
  sum_le_mul_count (Instr.op 0x5b) cfg.forkLimit code forks h.len h.le h.supp

/-! ### control transfers (C08) -/

/-- The whole popped 256-bit constant equals `tgt`, it is inside the code, and the stream entry
there is JUMPDEST. -/
def ValidTarget (code : List Instr) (d : TData) (tgt : Nat) : Prop :=
  ∃ counter d1 w, pop d = .ok (counter, d1) ∧ validateJump code counter = .ok tgt ∧
    isKnown (fold counter) = some w ∧ w.toNat = tgt ∧ tgt < 2 ^ 32 ∧ tgt < code.length ∧
    code[tgt]? = some (.op 0x5b)

section
variable {cfg : Cfg} {code : List Instr} {s : VMS} {t : Thread} {rest : List Thread} {ins : Instr}
  {o : OpOut}

theorem validTarget_of {d d1 : TData} {counter : SV} {tgt : Nat}
    (hp : pop d = .ok (counter, d1)) (hv : validateJump code counter = .ok tgt) :
    ValidTarget code d tgt := by
  obtain ⟨w, hw, hwt, h32, hc⟩ := validateJump_ok hv
  exact ⟨counter, d1, w, hp, hv, hw, hwt, h32, validateJump_lt hv, hc⟩

/-- JUMP: a transfer to `tgt` happens only to a validated JUMPDEST, and then the head thread of
the state handed to `advance` stands at `tgt`. -/
theorem jump_valid {tgt : Nat} (hq : s.queue = t :: rest) (hi : code[t.ip]? = some ins)
    (he : (opOut cfg code s t ins).err = none)
    (hj : (opOut cfg code s t ins).jumpTo = some tgt) :
    ins = .op 0x56 ∧ ValidTarget code t.d tgt ∧ code[tgt]? = some (.op 0x5b) ∧
    step cfg code s = advance cfg code (midOk cfg s t rest ins (opOut cfg code s t ins)) ∧
    (midOk cfg s t rest ins (opOut cfg code s t ins)).queue =
      { after t ins (opOut cfg code s t ins) with ip := tgt } :: rest ∧
    (midOk cfg s t rest ins (opOut cfg code s t ins)).forks = s.forks := by
  obtain ⟨hins, counter, d1, hp, hv⟩ := execOp_jumpTo hj
  refine ⟨hins, validTarget_of hp hv, execOp_jumpTo_jumpdest hj, step_ok hq hi he, ?_⟩
  exact midOk_cases
    (motive := fun s' => s'.queue = { after t ins (opOut cfg code s t ins) with ip := tgt } :: rest ∧
      s'.forks = s.forks)
    (fun tgt' hj' => by cases hj.symm.trans hj'; exact ⟨rfl, rfl⟩)
    (fun _ hn _ _ => nomatch hj.symm.trans hn) (fun _ hn _ _ => nomatch hj.symm.trans hn)
    (fun hn _ => nomatch hj.symm.trans hn)

/-- JUMPI: a child is enqueued only at a validated JUMPDEST `tgt`; the parent stays on its path. -/
theorem fork_valid {tgt : Nat} (hq : s.queue = t :: rest) (hi : code[t.ip]? = some ins)
    (he : (opOut cfg code s t ins).err = none)
    (hf : (opOut cfg code s t ins).forkTo = some tgt) :
    let o := opOut cfg code s t ins
    let child : Thread :=
      { ip := tgt, visited := bump t.visited t.ip, gas := t.gas, d := { o.d with forkPoint := t.ip } }
    ins = .op 0x57 ∧ ValidTarget code t.d tgt ∧ code[tgt]? = some (.op 0x5b) ∧
    step cfg code s = advance cfg code (midOk cfg s t rest ins o) ∧
    (midOk cfg s t rest ins o).queue =
      (if forkOk cfg (bump t.visited t.ip) s.forks tgt then after t ins o :: rest ++ [child]
       else after t ins o :: rest) ∧
    (midOk cfg s t rest ins o).forks =
      (if forkOk cfg (bump t.visited t.ip) s.forks tgt then bump s.forks tgt else s.forks) := by
  intro o child
  obtain ⟨hins, counter, d1, hp, hv⟩ := execOp_forkTo hf
  have hj : o.jumpTo = none := by
    cases hj : o.jumpTo with
    | none => rfl
    | some t' =>
      have := (execOp_jumpTo hj).1
      rw [hins] at this
      cases this
  have hf' : o.forkTo = some tgt := hf
  refine ⟨hins, validTarget_of hp hv, execOp_forkTo_jumpdest hf, step_ok hq hi he, ?_⟩
  exact midOk_cases
    (motive := fun s' =>
      s'.queue = (if forkOk cfg (bump t.visited t.ip) s.forks tgt then after t ins o :: rest ++ [child]
        else after t ins o :: rest) ∧
      s'.forks = (if forkOk cfg (bump t.visited t.ip) s.forks tgt then bump s.forks tgt else s.forks))
    (fun _ hj' => nomatch hj.symm.trans hj')
    (fun tgt' _ hf'' hfk => by cases hf'.symm.trans hf''; rw [if_pos hfk, if_pos hfk]; exact ⟨rfl, rfl⟩)
    (fun _ _ hn _ => nomatch hf'.symm.trans hn)
    (fun _ hfk => by rw [hfk tgt hf']; exact ⟨rfl, rfl⟩)

/-- Without a control request the head thread stays where it is and nothing is enqueued. -/
theorem midOk_noCtl (hj : o.jumpTo = none) (hf : o.forkTo = none) :
    (midOk cfg s t rest ins o).queue = after t ins o :: rest ∧
    (midOk cfg s t rest ins o).stored = s.stored ∧
    (midOk cfg s t rest ins o).forks = s.forks ∧
    (midOk cfg s t rest ins o).killed = (s.killed || o.kill) :=
  midOk_cases
    (motive := fun s' => s'.queue = after t ins o :: rest ∧ s'.stored = s.stored ∧
      s'.forks = s.forks ∧ s'.killed = (s.killed || o.kill))
    (fun _ hj' => nomatch hj.symm.trans hj') (fun _ _ hf' _ => nomatch hf.symm.trans hf')
    (fun _ _ _ _ => ⟨rfl, rfl, rfl, rfl⟩) (fun _ _ => ⟨rfl, rfl, rfl, rfl⟩)

/-- Where the head thread goes: to the JUMP target, or it stays, perhaps with a forked child
behind the queue; stored threads are untouched. -/
theorem midOk_queue (cfg : Cfg) (s : VMS) (t : Thread) (rest : List Thread) (ins : Instr)
    (o : OpOut) :
    (midOk cfg s t rest ins o).stored = s.stored ∧
    (midOk cfg s t rest ins o).killed = (s.killed || o.kill) ∧
    ((∃ tgt, o.jumpTo = some tgt ∧
        (midOk cfg s t rest ins o).queue = { after t ins o with ip := tgt } :: rest) ∨
     (o.jumpTo = none ∧
       ((midOk cfg s t rest ins o).queue = after t ins o :: rest ∨
        ∃ tgt, o.forkTo = some tgt ∧ (midOk cfg s t rest ins o).queue =
          after t ins o :: (rest ++ [⟨tgt, bump t.visited t.ip, t.gas,
            { o.d with forkPoint := t.ip }⟩])))) :=
  midOk_cases
    (motive := fun s' => s'.stored = s.stored ∧ s'.killed = (s.killed || o.kill) ∧
      ((∃ tgt, o.jumpTo = some tgt ∧ s'.queue = { after t ins o with ip := tgt } :: rest) ∨
       (o.jumpTo = none ∧ (s'.queue = after t ins o :: rest ∨
          ∃ tgt, o.forkTo = some tgt ∧ s'.queue = after t ins o :: (rest ++
            [⟨tgt, bump t.visited t.ip, t.gas, { o.d with forkPoint := t.ip }⟩])))))
    (fun tgt hj => ⟨rfl, rfl, .inl ⟨tgt, hj, rfl⟩⟩)
    (fun tgt hj hf _ => ⟨rfl, rfl, .inr ⟨hj, .inr ⟨tgt, hf, rfl⟩⟩⟩)
    (fun _ hj _ _ => ⟨rfl, rfl, .inr ⟨hj, .inl rfl⟩⟩) (fun hj _ => ⟨rfl, rfl, .inr ⟨hj, .inl rfl⟩⟩)

theorem advance_killed (hq : s.queue = t :: rest) (hk : s.killed = true) :
    (advance cfg code s).queue = rest ∧ (advance cfg code s).stored = s.stored ++ [t] := by
  rw [advance_cons hq, hk, show retire cfg code t true = true from Bool.or_true _]
  exact ⟨rfl, rfl⟩

/-- A halting instruction (`kill` set: STOP, RETURN, REVERT, SELFDESTRUCT, INVALID, unassigned
bytes, JUMP to a non-constant) ends the path: the thread leaves the queue for `stored`, and no
child is enqueued. -/
theorem halt_ends_path_kill (hq : s.queue = t :: rest) (hi : code[t.ip]? = some ins)
    (he : (opOut cfg code s t ins).err = none) (hk : (opOut cfg code s t ins).kill = true) :
    (step cfg code s).queue = rest ∧
    (step cfg code s).stored = s.stored ++ [after t ins (opOut cfg code s t ins)] := by
  obtain ⟨hj, hf⟩ := execOp_kill_noCtl hk
  obtain ⟨h1, h2, _, h4⟩ := midOk_noCtl (cfg := cfg) (s := s) (t := t) (rest := rest) (ins := ins)
    (o := opOut cfg code s t ins) hj hf
  rw [hk, Bool.or_true] at h4
  rw [step_ok hq hi he, ← h2]
  exact advance_killed h1 h4

/-- An `Err(e)` (not a panic) ends the path as well. -/
theorem halt_ends_path_err {e : XErr} (hq : s.queue = t :: rest)
    (hi : code[t.ip]? = some ins) (he : (opOut cfg code s t ins).err = some e)
    (hp : ∀ site, e ≠ .panic site) :
    (step cfg code s).queue = rest ∧
    (step cfg code s).stored = s.stored ++
      [{ t with visited := bump t.visited t.ip, d := (opOut cfg code s t ins).d }] := by
  rw [step_err hq hi he hp]
  exact advance_killed (s := midErr cfg s t rest (opOut cfg code s t ins) e) rfl rfl

theorem halt_ends_path (hq : s.queue = t :: rest) (hi : code[t.ip]? = some ins)
    (h : ((opOut cfg code s t ins).err = none ∧ (opOut cfg code s t ins).kill = true) ∨
      ∃ e, (opOut cfg code s t ins).err = some e ∧ ∀ site, e ≠ .panic site) :
    ∃ t', t'.ip = t.ip ∧ t'.visited = bump t.visited t.ip ∧
      (step cfg code s).queue = rest ∧ (step cfg code s).stored = s.stored ++ [t'] := by
  rcases h with ⟨he, hk⟩ | ⟨e, he, hp⟩
  · exact ⟨after t ins (opOut cfg code s t ins), rfl, rfl, halt_ends_path_kill hq hi he hk⟩
  · exact ⟨{ t with visited := bump t.visited t.ip, d := (opOut cfg code s t ins).d }, rfl, rfl,
      halt_ends_path_err hq hi he hp⟩

/-! ### where the threads go -/

/-- the threads the state handed to `advance` holds after an `Ok` instruction -/
theorem midOk_shape (cfg : Cfg) (s : VMS) (t : Thread) (rest : List Thread) (ins : Instr)
    (o : OpOut) :
    ∃ h tl, (midOk cfg s t rest ins o).queue = h :: (rest ++ tl) ∧
      (midOk cfg s t rest ins o).stored = s.stored ∧ h.d = o.d ∧
      (∀ x ∈ tl, x.d = { o.d with forkPoint := t.ip }) :=
  have plain : ∀ h : Thread, h.d = o.d → ∃ h' tl, h :: rest = h' :: (rest ++ tl) ∧
      s.stored = s.stored ∧ h'.d = o.d ∧ ∀ x ∈ tl, x.d = { o.d with forkPoint := t.ip } :=
    fun h hd => ⟨h, [], by rw [List.append_nil], rfl, hd, nofun⟩
  midOk_cases
    (motive := fun s' => ∃ h tl, s'.queue = h :: (rest ++ tl) ∧ s'.stored = s.stored ∧ h.d = o.d ∧
      ∀ x ∈ tl, x.d = { o.d with forkPoint := t.ip })
    (fun _ _ => plain _ rfl)
    (fun _ _ _ _ => ⟨after t ins o, [_], rfl, rfl, rfl, fun x hx => List.mem_singleton.mp hx ▸ rfl⟩)
    (fun _ _ _ _ => plain _ rfl) (fun _ _ => plain _ rfl)

/-- What `advance` does to the queue: the head thread either moves on by one instruction or is
retired to `stored`; its data is not touched, nor is any other thread. -/
theorem advance_shape {q : List Thread} (hq : s.queue = t :: q) :
    ((advance cfg code s).queue = { t with ip := t.ip + 1 } :: q ∧
      (advance cfg code s).stored = s.stored) ∨
    ((advance cfg code s).queue = q ∧ (advance cfg code s).stored = s.stored ++ [t]) := by
  rw [advance_cons hq]
  split
  · exact Or.inr ⟨rfl, rfl⟩
  · exact Or.inl ⟨rfl, rfl⟩

theorem advance_head (hq : s.queue = t :: rest) :
    ∃ th ∈ (advance cfg code s).queue ++ (advance cfg code s).stored, th.d = t.d := by
  rcases advance_shape (cfg := cfg) (code := code) hq with ⟨h, _⟩ | ⟨_, h⟩
  · exact ⟨{ t with ip := t.ip + 1 }, by rw [h]; exact List.mem_append_left _ (List.mem_cons_self ..), rfl⟩
  · exact ⟨t, by rw [h]; exact List.mem_append_right _ (List.mem_append_right _ (List.mem_singleton_self t)), rfl⟩

/-- Unless the instruction panics, some thread of the next state carries its data effect. -/
theorem step_head (hq : s.queue = t :: rest) (hi : code[t.ip]? = some ins)
    (hnp : ∀ site, (opOut cfg code s t ins).err ≠ some (.panic site)) :
    ∃ th ∈ (step cfg code s).queue ++ (step cfg code s).stored,
      th.d = (opOut cfg code s t ins).d := by
  cases he : (opOut cfg code s t ins).err with
  | none =>
    rw [step_ok hq hi he]
    obtain ⟨t', q, hq', _, hd, _⟩ := midOk_shape cfg s t rest ins (opOut cfg code s t ins)
    obtain ⟨th, hm, hd'⟩ := advance_head (cfg := cfg) (code := code) hq'
    exact ⟨th, hm, hd'.trans hd⟩
  | some e =>
    rw [step_err hq hi he fun site hs => hnp site (hs ▸ he)]
    exact advance_head (s := midErr cfg s t rest (opOut cfg code s t ins) e) rfl

/-! ### what a step does to `aborted` -/

theorem advance_aborted (hq : s.queue = t :: rest) : (advance cfg code s).aborted = s.aborted := by
  rw [advance_cons hq]; split <;> rfl

theorem midOk_aborted : (midOk cfg s t rest ins o).aborted = s.aborted :=
  midOk_cases (motive := fun s' => s'.aborted = s.aborted) (fun _ _ => rfl) (fun _ _ _ _ => rfl)
    (fun _ _ _ _ => rfl) (fun _ _ => rfl)

theorem advance_midOk_aborted :
    (advance cfg code (midOk cfg s t rest ins o)).aborted = s.aborted := by
  obtain ⟨t', q, hq', _⟩ := midOk_shape cfg s t rest ins o
  rw [advance_aborted hq', midOk_aborted]

theorem advance_midErr_aborted {e : XErr} :
    (advance cfg code (midErr cfg s t rest o e)).aborted = s.aborted :=
  advance_aborted (s := midErr cfg s t rest o e) rfl

end

/-- Under the invariant the only way a step can abort is a panic inside the instruction's data
effect (`InstructionPointerOutOfBounds` and `InvalidStep` are unreachable); the aborting step
changes nothing but `aborted`, so `Inv` survives it (`inv_step'`). -/
theorem step_aborted {cfg : Cfg} {code : List Instr} {s : VMS} (h : Inv cfg code s)
    (ha : s.aborted = none) :
    (step cfg code s).aborted = none ∨
      ∃ site, step cfg code s = { s with aborted := some (.panic site) } := by
  refine step_cases
    (motive := fun s' => s'.aborted = none ∨ ∃ site, s' = { s with aborted := some (.panic site) })
    (fun _ => .inl ha) (fun t rest hq hi => ?_) (fun _ _ _ site _ _ _ => .inr ⟨site, rfl⟩)
    (fun _ _ _ _ _ _ => .inl (advance_midOk_aborted.trans ha))
    (fun _ _ _ _ _ _ _ _ => .inl (advance_midErr_aborted.trans ha))
  have hip := (h.runnable t (by rw [hq]; exact List.mem_cons_self ..)).ip
  rw [List.getElem?_eq_none_iff] at hi
  omega

end SLE.VM
