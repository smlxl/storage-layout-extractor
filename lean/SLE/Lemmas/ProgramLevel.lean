import SLE.Model.Pipe
import SLE.Lemmas.VMNoPanic
import SLE.Lemmas.ProgramModes
import SLE.Lemmas.VMInv
import SLE.Lemmas.LiftInv
import SLE.Lemmas.TCSlots
import SLE.Props.C01
import SLE.Props.C12
/-!
Program-level theorems: the values the symbolic machine hands to the type checker are `Raw`
(no lifted construct), and `StorageFree` when the program has no SLOAD/SSTORE; hence the pipeline
theorems (C01, C05, C12) hold for PROGRAMS (`Pipe.analyseProgram`).
`dataVals`, `P_D`, `P_S`, `DI`, `P_D_iff`, `badKind` and `TI` of this namespace are declared in `VMInv`,
where the generic theorems about them are.
-/
namespace SLE.ProgramLevel
open SLE SLE.SV SLE.VM SLE.TCSpec
open SLE.Disasm (Instr)
open SLE.LiftInv (NoP NoP_node NoP_rebuild NoP_mkKnown fold_NoP)
open SLE.VMInv

def NoStorageOps (code : List Disasm.Instr) : Prop := ∀ ins ∈ code, ins ≠ .op 0x54 ∧ ins ≠ .op 0x55

/-! ### the value predicate -/

/-- no node of the tree has a kind satisfying `p` -/
def Pv (p : Kind → Bool) (v : SV) : Prop := NoP (fun k _ => p k) v

/-- `p` rejects no kind the machine builds (other than through SLOAD) -/
def Machine (p : Kind → Bool) : Prop := ∀ k, badKind k = false → p k = false

theorem raw_iff (v : SV) : Raw v ↔ Pv isLiftedKind v := Iff.rfl
theorem storageFree_iff (v : SV) : StorageFree v ↔ Pv isStorageKind v := Iff.rfl

theorem machine_lifted : Machine isLiftedKind := by
  intro k hk
  simp only [badKind, Bool.or_eq_false_iff] at hk
  exact hk.1

theorem machine_storage : Machine isStorageKind := by
  intro k hk
  simp only [badKind, Bool.or_eq_false_iff] at hk
  exact hk.2

section prim
variable {p : Kind → Bool}

theorem Pv_node {k a ks s} : Pv p (.node k a ks s) ↔ p k = false ∧ ∀ x ∈ ks, Pv p x := NoP_node

theorem Pv_rebuild {k a ks} : Pv p (rebuild k a ks) ↔ p k = false ∧ ∀ x ∈ ks, Pv p x := NoP_rebuild

theorem Pv_mkKnown (hm : Machine p) (w : Word) : Pv p (mkKnown w) :=
  NoP_mkKnown (fun _ => hm _ rfl) w

theorem Pv_mkValue (hm : Machine p) (i : Nat) : Pv p (mkValue i) :=
  Pv_node.mpr ⟨hm _ rfl, all_nil⟩

theorem Pv_fold (hm : Machine p) {v : SV} (hv : Pv p v) : Pv p (fold v) :=
  fold_NoP (fun _ => hm _ rfl) v hv

theorem Pv_mk (hm : Machine p) {lim fresh k a ks} (hk : p k = false) (hks : ∀ x ∈ ks, Pv p x) :
    Pv p (SV.mk lim fresh k a ks) := by
  unfold SV.mk
  split
  · dsimp only
    split
    · exact Pv_mkValue hm _
    · exact Pv_node.mpr ⟨hk, hks⟩
  · exact Pv_node.mpr ⟨hk, hks⟩

/-- The builders keep `Pv p` for every `p` that rejects no machine kind. -/
theorem builds_Pv (hm : Machine p) (c : Ctx) : Builds c (Pv p) (Pv p) where
  weaken := id
  node := fun hk hks => Pv_mk hm (hm _ (Bool.or_eq_false_iff.mp hk).1) hks
  fresh := Pv_mkValue hm _
  zero := Pv_mkKnown hm _
  fold := Pv_fold hm
  concat := fun hvs => Pv_rebuild.mpr ⟨hm _ rfl, hvs⟩

/-- SLOAD / SSTORE keep `Pv p` when storage is held to the same standard as the rest and `p`
accepts the two kinds SLOAD builds. -/
theorem storage_Pv (h1 : p .sLoad = false) (h2 : p .unwrittenStorageValue = false) (c : Ctx) :
    Storage c (Pv p) (Pv p) (Pv p) (Pv p) where
  key := id
  gen := id
  placeholder := fun hk => Pv_rebuild.mpr ⟨h2, all_cons hk all_nil⟩
  weaken := id
  kids := fun h => (Pv_node.mp h).2
  sload := fun hks => Pv_rebuild.mpr ⟨h1, hks⟩
  recheck := fun h _ => h

end prim

/-! ### opcode templates, memory -/

theorem instantiate_go_P {p : Kind → Bool} (hm : Machine p) (c : Ctx) (args : List SV)
    (ha : ∀ a ∈ args, Pv p a) :
    ∀ (ts : List SV) (n : Nat), (∀ t ∈ ts, NoP (fun k _ => badKind k) t) →
      ∀ x ∈ (instantiate.go c args ts n).1, Pv p x :=
  instantiate_go_keeps (N := fun k _ => badKind k = false) NoP_node.mp
    (fun hk hks => Pv_mk hm (hm _ hk) hks) (fun hk _ => by rw [eq_of_beq hk]; rfl) (Pv_mkValue hm _) ha

section out
variable {p : Kind → Bool} {P S : SV → Prop}

theorem memLoad_v' (hm : Machine p) {d : TData} {off : SV} (h : DI (Pv p) S d) (ho : Pv p off) :
    Pv p (memLoad d off).1 := ((di_iff.mp h).memLoad (Pv_mkKnown hm _) (Pv_fold hm ho)).1
theorem memLoad_d' (hm : Machine p) {d : TData} {off : SV} (h : DI (Pv p) S d) (ho : Pv p off) :
    DI (Pv p) S (memLoad d off).2 :=
  di_iff.mpr ((di_iff.mp h).memLoad (Pv_mkKnown hm _) (Pv_fold hm ho)).2

end out

/-- The data effect of any instruction keeps the invariant.  SLOAD / SSTORE are the only
instructions that touch storage; for them storage must be held to the same standard as the rest
(`S = Pv p`) and `p` must accept the two kinds SLOAD builds. -/
theorem di_execOp {p : Kind → Bool} {S : SV → Prop} (hm : Machine p) {c : Ctx} {code : List Instr}
    {ins : Instr} {d : TData} {ctr : Nat} (h : DI (Pv p) S d)
    (hs : ins = .op 0x54 ∨ ins = .op 0x55 →
      S = Pv p ∧ p .sLoad = false ∧ p .unwrittenStorageValue = false) :
    DI (Pv p) S (execOp c code ins d ctr).d :=
  di_iff.mpr (DataInv.execOp (builds_Pv hm c) (di_iff.mp h) (fun hi => by
    obtain ⟨rfl, h1, h2⟩ := hs hi
    exact storage_Pv h1 h2 c)).d

/-! ### machine values are raw -/

theorem di_fork {P S : SV → Prop} (d : TData) (fp : Nat) (h : DI P S d) :
    DI P S { d with forkPoint := fp } :=
  di_iff.mpr ((di_iff.mp h).fork fp)

theorem di_empty {P S : SV → Prop} : DI P S {} := di_iff.mpr DataInv.empty

/-- One instruction keeps all values of the thread state raw. -/
theorem raw_execOp (c : Ctx) (code : List Disasm.Instr) (ins : Disasm.Instr) (d : TData) (ctr : Nat) :
    P_D Raw d → P_D Raw (execOp c code ins d ctr).d := by
  intro h
  have h' : DI (Pv isLiftedKind) (Pv isLiftedKind) d := P_D_iff.mp h
  exact P_D_iff.mpr (di_execOp machine_lifted h' (fun _ => ⟨rfl, rfl, rfl⟩))

theorem P_S_iff {P : SV → Prop} {s : VMS} : P_S P s ↔ TI (P_D P) s := Iff.rfl

theorem pd_fork {P : SV → Prop} (d : TData) (fp : Nat) (h : P_D P d) : P_D P { d with forkPoint := fp } := h

theorem raw_step (cfg : Cfg) (code : List Disasm.Instr) (s : VMS) :
    P_S Raw s → P_S Raw (step cfg code s) :=
  ti_step pd_fork (fun _ ins d ctr _ h => raw_execOp _ code ins d ctr h)

theorem raw_run' (cfg : Cfg) (code : List Disasm.Instr) (fuel : Nat) (s : VMS) :
    P_S Raw s → P_S Raw (run cfg code fuel s) :=
  ti_run pd_fork (fun _ ins d ctr _ h => raw_execOp _ code ins d ctr h) fuel s

/-- Every value of every thread of a run from the initial state is raw. -/
theorem raw_run (cfg : Cfg) (code : List Disasm.Instr) (fuel : Nat) :
    P_S Raw (run cfg code fuel (initVM cfg code)) :=
  raw_run' cfg code fuel _ (ti_init (P_D_iff.mpr di_empty))

/-! ### no storage instruction ⇒ storage-free values and empty storage -/

/-- the invariant of a code without storage instructions: all values storage-free, and the two
storage maps empty -/
abbrev SF (d : TData) : Prop := DI (Pv isStorageKind) (fun _ => False) d

theorem sf_empty_storage {d : TData} (h : SF d) : d.stK = [] ∧ d.stS = [] := by
  constructor
  · cases hk : d.stK with
    | nil => rfl
    | cons q r => exact ((h.stK q (by rw [hk]; simp)).1).elim
  · cases hk : d.stS with
    | nil => rfl
    | cons q r => exact ((h.stS q (by rw [hk]; simp)).1).elim

theorem sf_pd {d : TData} (h : SF d) : P_D StorageFree d :=
  P_D_iff.mpr ⟨h.stack, h.memC, h.memS, fun q hq => (h.stK q hq).1.elim, fun q hq => (h.stS q hq).1.elim,
    h.recorded, h.logged⟩

theorem sf_execOp {code : List Disasm.Instr} (hns : NoStorageOps code) (c : Ctx) (ins : Disasm.Instr)
    (d : TData) (ctr : Nat) (hmem : ins ∈ code) (h : SF d) : SF (execOp c code ins d ctr).d :=
  di_execOp machine_storage h (fun hins => by
    rcases hins with hins | hins
    · exact absurd hins (hns ins hmem).1
    · exact absurd hins (hns ins hmem).2)

theorem sf_run {code : List Disasm.Instr} (hns : NoStorageOps code) (cfg : Cfg) (fuel : Nat) :
    TI SF (run cfg code fuel (initVM cfg code)) :=
  ti_run di_fork (fun _ => sf_execOp hns _) fuel _ (ti_init di_empty)

/-- Without SLOAD / SSTORE in the code, every value of every thread is storage-free. -/
theorem storageFree_run {cfg : Cfg} {code : List Disasm.Instr} {fuel : Nat} :
    NoStorageOps code → P_S StorageFree (run cfg code fuel (initVM cfg code)) :=
  fun hns t ht => sf_pd (sf_run hns cfg fuel t ht)

/-- … and the storage maps of every thread stay empty. -/
theorem storage_empty_run {cfg : Cfg} {code : List Disasm.Instr} {fuel : Nat} (hns : NoStorageOps code) :
    ∀ t ∈ (run cfg code fuel (initVM cfg code)).queue ++ (run cfg code fuel (initVM cfg code)).stored,
      t.d.stK = [] ∧ t.d.stS = [] :=
  fun t ht => sf_empty_storage (sf_run hns cfg fuel t ht)

/-! ### program-level corollaries -/

/-- What `all_values` hands over satisfies `Pv p` when the thread state does and the
`storageWrite` wrappers of the storage generations do. -/
theorem allValues_P {p : Kind → Bool} {S : SV → Prop} {d : TData} (h : DI (Pv p) S d)
    (hw : ∀ k v, S k → S v → Pv p (rebuild .storageWrite [] [k, v])) :
    ∀ v ∈ Pipe.allValues d, Pv p v :=
  (di_iff.mp h).allValues (fun _ hv => hv) hw

/-- Every value the machine hands to the type checker is raw. -/
theorem program_values_raw (cfg : Cfg) (code : List Disasm.Instr) (fuel : Nat) :
    ∀ v ∈ (run cfg code fuel (initVM cfg code)).stored.flatMap (fun t => Pipe.allValues t.d), Raw v := by
  intro v hv
  obtain ⟨t, ht, hv⟩ := List.mem_flatMap.mp hv
  have hpd : P_D Raw t.d := raw_run cfg code fuel t (List.mem_append.mpr (Or.inr ht))
  have hdi : DI (Pv isLiftedKind) (Pv isLiftedKind) t.d := P_D_iff.mp hpd
  refine allValues_P hdi (fun k v hk hv => Pv_rebuild.mpr ⟨rfl, ?_⟩) v hv
  intro x hx
  simp only [List.mem_cons, List.not_mem_nil, or_false] at hx
  rcases hx with rfl | rfl
  · exact hk
  · exact hv

/-- Without storage instructions every value handed over is storage-free. -/
theorem program_values_storageFree {cfg : Cfg} {code : List Disasm.Instr} {fuel : Nat}
    (hns : NoStorageOps code) :
    ∀ v ∈ (run cfg code fuel (initVM cfg code)).stored.flatMap (fun t => Pipe.allValues t.d),
      StorageFree v := by
  intro v hv
  obtain ⟨t, ht, hv⟩ := List.mem_flatMap.mp hv
  have hsf : SF t.d := sf_run hns cfg fuel t (List.mem_append.mpr (Or.inr ht))
  exact allValues_P hsf (fun k v hk _ => hk.elim) v hv

open SLE.ProgramModes (errsOf analyseProgram_error analyseProgram_ok analysed_inv)

theorem errsOf_clean (cfg : Cfg) (code : List Disasm.Instr) (fuel : Nat) :
    ∀ e ∈ errsOf (run cfg code fuel (initVM cfg code)), e.2.isPanic = false := by
  have hclean := VMNoPanic.run_no_panic cfg code fuel
  intro e he
  unfold errsOf at he
  split at he
  · rename_i x hx
    rw [List.mem_singleton.mp he]
    exact hclean.2 x hx
  · exact hclean.1 e he

/-- C01. The analysis of a program ends in a disassembly error, in structured (non-panic)
execution errors, or in an analysis whose outcome is a layout, the unifier's step budget running
out, or a structured rendering error — never a lift fault, never another unifier fault. -/
theorem program_total (h : Lift.HashCtx) (o : Unify.Orders) (ho : Unify.OrdersOk o) (cfg : Cfg)
    (bytes : List Nat) (vmFuel uFuel : Nat) :
    match Pipe.analyseProgram h o cfg bytes vmFuel uFuel with
    | .disasmError _ => True
    | .execErrors es => ∀ e ∈ es, e.2.isPanic = false
    | .analysed a =>
      match a.outcome with
      | .layout _ => True
      | .liftFault _ => False
      | .unifyFault e => e = .outOfFuel
      | .renderFault _ => True := by
  cases hd : Disasm.disasm bytes with
  | error e => rw [analyseProgram_error hd]; trivial
  | ok code =>
    rw [analyseProgram_ok hd]
    by_cases hc : (!(errsOf (run cfg code vmFuel (initVM cfg code))).isEmpty) = true
    · rw [if_pos hc]
      exact errsOf_clean cfg code vmFuel
    · rw [if_neg hc]
      exact C01.C01_pipeline_total h o ho uFuel _ (program_values_raw cfg code vmFuel)

/-- C05. A program without SLOAD / SSTORE gets the empty layout. -/
theorem program_storage_free_empty (h : Lift.HashCtx) (o : Unify.Orders) (cfg : Cfg) (bytes : List Nat)
    (vmFuel uFuel : Nat) (code : List Disasm.Instr) (a : TC.Analysis)
    (l : List (Layout.Entry JsonModel.AbiType))
    (hd : Disasm.disasm bytes = .ok code) (hns : NoStorageOps code)
    (ha : Pipe.analyseProgram h o cfg bytes vmFuel uFuel = .analysed a)
    (hl : a.outcome = .layout l) : l = [] := by
  obtain ⟨code', hd', _, rfl⟩ := analysed_inv ha
  rw [hd] at hd'
  cases hd'
  exact LiftInv.storage_free_empty h o uFuel _ l (program_values_raw cfg code vmFuel)
    (program_values_storageFree hns) hl

/-- C12. The layout of a program is sorted. -/
theorem program_sorted (h : Lift.HashCtx) (o : Unify.Orders) (cfg : Cfg) (bytes : List Nat)
    (vmFuel uFuel : Nat) (a : TC.Analysis) (l : List (Layout.Entry JsonModel.AbiType))
    (ha : Pipe.analyseProgram h o cfg bytes vmFuel uFuel = .analysed a)
    (hl : a.outcome = .layout l) : Layout.Sorted l := by
  obtain ⟨code, _, _, rfl⟩ := analysed_inv ha
  exact C12.C12_sorted h o uFuel _ l hl

/-- C05. Every slot index of a program's layout is the literal key of a `storageSlot` node of
a lifted value of the run. -/
theorem program_slots_from_accesses (h : Lift.HashCtx) (o : Unify.Orders) (cfg : Cfg) (bytes : List Nat)
    (vmFuel uFuel : Nat) (a : TC.Analysis) (l : List (Layout.Entry JsonModel.AbiType))
    (ha : Pipe.analyseProgram h o cfg bytes vmFuel uFuel = .analysed a)
    (hl : a.outcome = .layout l) :
    ∀ e ∈ l, ∃ code lifted, Disasm.disasm bytes = .ok code ∧
      TC.liftValues h (TC.uniqueSV
        ((run cfg code vmFuel (initVM cfg code)).stored.flatMap (fun t => Pipe.allValues t.d))) = .ok lifted ∧
      ∃ v ∈ lifted, hasConstSlot e.index v = true := by
  intro e he
  obtain ⟨code, hd, _, rfl⟩ := analysed_inv ha
  obtain ⟨lifted, hlift, hv⟩ := TCSlots.slots_from_slot_nodes h o uFuel _ l hl e he
  exact ⟨code, lifted, hd, hlift, hv⟩

/-! ### Non-vacuity -/

example : NoStorageOps [.push 1 [5], .op 0x01, .op 0x00] := by
  intro ins h
  simp only [List.mem_cons, List.not_mem_nil, or_false] at h
  rcases h with rfl | rfl | rfl
  all_goals
    constructor
    · intro h'; cases h'
    · intro h'; cases h'

example : ¬ NoStorageOps [.push 1 [0], .op 0x54] := fun h => (h (.op 0x54) (by simp)).1 rfl

end SLE.ProgramLevel

section
open SLE SLE.SV SLE.VM SLE.TCSpec
#print axioms SLE.ProgramLevel.raw_execOp
#print axioms SLE.ProgramLevel.raw_step
#print axioms SLE.ProgramLevel.raw_run
#print axioms SLE.ProgramLevel.storageFree_run
#print axioms SLE.ProgramLevel.storage_empty_run
#print axioms SLE.ProgramLevel.program_values_raw
#print axioms SLE.ProgramLevel.program_total
#print axioms SLE.ProgramLevel.program_storage_free_empty
#print axioms SLE.ProgramLevel.program_sorted
#print axioms SLE.ProgramLevel.program_slots_from_accesses
end
