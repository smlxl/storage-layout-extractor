import SLE.Model.Pipe
import SLE.Lemmas.LiftInv
import SLE.Lemmas.VMSize
import SLE.Props.C18
/-!
C18 under lifting: "every node records its true size" (`WF`) is a `TreeInv` under which every head
can be made, so `liftAll` keeps it; and the values the type checker receives from the machine
are `WF` before and after lifting.
-/
namespace SLE.LiftSize
open SLE SLE.SV SLE.Lift SLE.VM SLE.LiftShape
open SLE.VMSize (wf_kids wf_rebuild' Good GoodGen GoodD)

theorem treeInv_WF : TreeInv WF := ⟨wf_kids, fun _ => wf_rebuild'⟩

theorem liftAll_wf (h : HashCtx) (v v' : SV) (hv : WF v) (hl : liftAll h v = .ok v') : WF v' :=
  LiftInv.liftAll_inv treeInv_WF (fun _ _ _ => wf_rebuild') h v v' hv hl

theorem liftAll_size (h : HashCtx) (v v' : SV) (hv : WF v) (hl : liftAll h v = .ok v') :
    v'.recSize = nodeCount v' :=
  SLE.C18.C18_size_eq_nodeCount v' (liftAll_wf h v v' hv hl)

/-! ### the values handed to the type checker -/

/-- every value `VMState::all_values` collects from a thread whose data satisfies the machine
invariant records its true size (stack, memory cells and symbolic memory offsets, the
`storageWrite [key, generation]` wrappers built over the storage maps — including the
`UnwrittenStorageValue` placeholder generations —, recorded and logged values) -/
theorem allValues_wf {lim : Nat} {d : TData} (h : GoodD lim d) : ∀ v ∈ Pipe.allValues d, WF v :=
  (VMSize.goodD_iff.mp h).allValues (fun _ hv => hv.1)
    fun _ _ hk hg => wf_rebuild' (forall_mem_two.2 ⟨hk.1, hg.wf⟩)

/-- For every program, every value the machine hands to the type checker records its true
size at every node. -/
theorem program_values_wf (cfg : Cfg) (code : List Disasm.Instr) (fuel : Nat) :
    ∀ v ∈ (VM.run cfg code fuel (VM.initVM cfg code)).stored.flatMap (fun t => Pipe.allValues t.d),
      WF v := by
  intro v hv
  obtain ⟨t, ht, hv⟩ := List.mem_flatMap.mp hv
  exact allValues_wf (SLE.VMSize.good_run cfg code fuel t (List.mem_append.mpr (Or.inr ht))) v hv

/-- Lifting a de-duplicated list of truthfully sized values yields truthfully sized values. -/
theorem lifted_values_wf (h : HashCtx) (vals lifted : List SV) (hv : ∀ v ∈ vals, WF v)
    (hl : TC.liftValues h (TC.uniqueSV vals) = .ok lifted) : ∀ v ∈ lifted, WF v := by
  intro y hy
  obtain ⟨v, hm, hvy⟩ := LiftInv.liftValues_mem h _ _ hl y hy
  exact liftAll_wf h v y (hv v (LiftInv.uniqueSV_mem vals v hm)) hvy

/-! ### non-vacuity: the hashed-slot case really grows the tree, and sizes follow -/

def exCtx : HashCtx := ⟨fun x => if x = 12345 then some 3 else none, fun _ => 0⟩

def exIn : SV :=
  rebuild .sLoad [] [mkKnownNat 12345, rebuild .unwrittenStorageValue [] [mkKnownNat 12345]]

example : WF exIn := by
  simp [exIn, rebuild, mkKnownNat, childSize, recSize, WF, WFList, nodeCountList, nodeCount]

/-- what lifting makes of `sLoad [12345, unwritten [12345]]` when the table knows `12345` as the
hash of slot 3: both constants become `sha3 [3]` (one node more each), the key gets its
`storageSlot` wrapper, and every ancestor's recorded size is recomputed -/
def exOut : SV :=
  .node .sLoad []
    [.node .storageSlot [] [.node .sha3 [] [.node .knownData [3] [] 1] 2] 3,
     .node .unwrittenStorageValue [] [.node .sha3 [] [.node .knownData [3] [] 1] 2] 3] 7

example : liftAll exCtx exIn = .ok exOut := by rfl

example : ∃ v', liftAll exCtx exIn = .ok v' ∧ v'.recSize = nodeCount v' ∧
    nodeCount exIn < nodeCount v' :=
  ⟨exOut, by rfl, by decide, by decide⟩

/-- the general theorem applied to the example (not by evaluation) -/
example : exOut.recSize = nodeCount exOut :=
  liftAll_size exCtx exIn exOut
    (by simp [exIn, rebuild, mkKnownNat, childSize, recSize, WF, WFList, nodeCountList, nodeCount])
    (by rfl)

end SLE.LiftSize
