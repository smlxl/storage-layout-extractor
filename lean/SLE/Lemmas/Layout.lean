import SLE.Model.Layout
import SLE.Lemmas.Merge
/-!
M7 (layout part) — the storage-layout container (`StorageLayout::add`), `Itertools::unique`, and
order-independence of the per-class merge fold on the `Equal`-free, packed-free fragment.
-/
namespace SLE.Layout
open SLE SLE.MergeLaws
set_option linter.unusedSimpArgs false

/-! ## A. The layout container -/

section Container
variable {α : Type}

theorem keyLe_iff (a b : Entry α) :
    keyLe a b = true ↔ a.index < b.index ∨ (a.index = b.index ∧ a.offset ≤ b.offset) := by
  simp [keyLe]

theorem keyLt_iff (a b : Entry α) :
    keyLt a b = true ↔ a.index < b.index ∨ (a.index = b.index ∧ a.offset < b.offset) := by
  simp [keyLt]

theorem keyLe_refl (a : Entry α) : keyLe a a = true := by
  rw [keyLe_iff]; omega

theorem keyLe_trans {a b c : Entry α} (h1 : keyLe a b = true) (h2 : keyLe b c = true) :
    keyLe a c = true := by
  rw [keyLe_iff] at *; omega

theorem keyLe_total (a b : Entry α) : keyLe a b = true ∨ keyLe b a = true := by
  simp only [keyLe_iff]; omega

theorem keyLe_of_keyLt {a b : Entry α} (h : keyLt a b = true) : keyLe a b = true := by
  rw [keyLt_iff] at h; rw [keyLe_iff]; omega

theorem keyLe_of_not_keyLt {a b : Entry α} (h : ¬ keyLt a b = true) : keyLe b a = true := by
  rw [keyLt_iff] at h; rw [keyLe_iff]; omega

/-- `keyLe` both ways means the `(index, offset)` keys coincide. -/
theorem keyLe_antisymm_key {a b : Entry α} (h1 : keyLe a b = true) (h2 : keyLe b a = true) :
    a.index = b.index ∧ a.offset = b.offset := by
  rw [keyLe_iff] at *; omega

/-! ### nothing is lost or duplicated -/

theorem insertStable_perm (e : Entry α) (l : List (Entry α)) : (insertStable e l).Perm (e :: l) := by
  induction l with
  | nil => exact .refl _
  | cons x r ih =>
    unfold insertStable
    split
    · exact .refl _
    · exact (List.Perm.cons x ih).trans (List.Perm.swap e x r)

theorem add_perm (l : List (Entry α)) (e : Entry α) : (add l e).Perm (e :: l) :=
  insertStable_perm e l

theorem foldl_add_perm (es : List (Entry α)) : ∀ acc : List (Entry α),
    (es.foldl add acc).Perm (acc ++ es) := by
  induction es with
  | nil => intro acc; simp
  | cons e es ih =>
    intro acc
    simp only [List.foldl_cons]
    refine (ih (add acc e)).trans ?_
    refine ((add_perm acc e).append_right es).trans ?_
    exact List.perm_middle.symm

theorem buildLayout_perm (es : List (Entry α)) : (buildLayout es).Perm es := by
  simpa [buildLayout] using foldl_add_perm es []

theorem mem_add {l : List (Entry α)} {e x : Entry α} : x ∈ add l e ↔ x = e ∨ x ∈ l := by
  rw [(add_perm l e).mem_iff, List.mem_cons]

theorem mem_buildLayout {es : List (Entry α)} {x : Entry α} : x ∈ buildLayout es ↔ x ∈ es :=
  (buildLayout_perm es).mem_iff

theorem length_buildLayout (es : List (Entry α)) : (buildLayout es).length = es.length :=
  (buildLayout_perm es).length_eq

/-! ### the container is always sorted -/

theorem insertStable_sorted (e : Entry α) : ∀ (l : List (Entry α)), Sorted l → Sorted (insertStable e l) := by
  intro l
  induction l with
  | nil => intro _; simp [insertStable, Sorted]
  | cons x r ih =>
    intro hs
    have hs' : (∀ a' ∈ r, keyLe x a' = true) ∧ Sorted r := List.pairwise_cons.1 hs
    unfold insertStable
    split
    · rename_i hlt
      refine List.pairwise_cons.2 ⟨?_, hs⟩
      intro a' ha'
      rcases List.mem_cons.1 ha' with rfl | ha'
      · exact keyLe_of_keyLt hlt
      · exact keyLe_trans (keyLe_of_keyLt hlt) (hs'.1 a' ha')
    · rename_i hlt
      refine List.pairwise_cons.2 ⟨?_, ih hs'.2⟩
      intro a' ha'
      rcases List.mem_cons.1 ((insertStable_perm e r).mem_iff.1 ha') with rfl | ha'
      · exact keyLe_of_not_keyLt hlt
      · exact hs'.1 a' ha'

theorem add_sorted {l : List (Entry α)} {e : Entry α} (h : Sorted l) : Sorted (add l e) :=
  insertStable_sorted e l h

theorem foldl_add_sorted (es : List (Entry α)) : ∀ acc : List (Entry α), Sorted acc →
    Sorted (es.foldl add acc) := by
  induction es with
  | nil => intro acc h; exact h
  | cons e es ih => intro acc h; exact ih _ (add_sorted h)

theorem sorted_nil : Sorted ([] : List (Entry α)) := List.Pairwise.nil

/-- The layout is ordered by slot index and, within a slot, by offset — for every insertion
sequence. -/
theorem buildLayout_sorted (es : List (Entry α)) : Sorted (buildLayout es) :=
  foldl_add_sorted es [] sorted_nil

/-! ### independence of the insertion order for distinct keys -/

/-- In a list with pairwise distinct keys, two members with the same key are the same entry. -/
theorem DistinctKeys.eq_of_key {l : List (Entry α)} (hd : DistinctKeys l) {a b : Entry α}
    (ha : a ∈ l) (hb : b ∈ l) (hk : a.index = b.index ∧ a.offset = b.offset) : a = b := by
  have h1 : l.Pairwise (fun a b => a = b ∨ ¬ (a.index = b.index ∧ a.offset = b.offset)) :=
    hd.imp (fun h => Or.inr h)
  have h2 : l.Pairwise (flip fun a b : Entry α => a = b ∨ ¬ (a.index = b.index ∧ a.offset = b.offset)) :=
    hd.imp (fun {a b} h => Or.inr (fun h' => h ⟨h'.1.symm, h'.2.symm⟩))
  have := List.Pairwise.forall_of_forall_of_flip
    (R := fun a b : Entry α => a = b ∨ ¬ (a.index = b.index ∧ a.offset = b.offset))
    (fun x _ => Or.inl rfl) h1 h2 ha hb
  rcases this with h | h
  · exact h
  · exact absurd hk h

/-- The layout is *the* sorted permutation of the input whenever keys are distinct. -/
theorem buildLayout_unique_sorted {es l : List (Entry α)} (hd : DistinctKeys es)
    (hp : l.Perm es) (hs : Sorted l) : l = buildLayout es := by
  refine List.Perm.eq_of_pairwise (le := fun a b => keyLe a b = true) ?_ hs
    (buildLayout_sorted es) (hp.trans (buildLayout_perm es).symm)
  intro a b ha hb hab hba
  exact hd.eq_of_key (hp.mem_iff.1 ha) (mem_buildLayout.1 hb) (keyLe_antisymm_key hab hba)

/-! ### what remains order dependent: equal keys keep their insertion order (stability) -/

/-- `e` carries the key `k = (index, offset)`. -/
def hasKey (k : Nat × Nat) (e : Entry α) : Bool := e.index == k.1 && e.offset == k.2

theorem hasKey_iff (k : Nat × Nat) (e : Entry α) :
    hasKey k e = true ↔ e.index = k.1 ∧ e.offset = k.2 := by
  simp [hasKey]

theorem filter_insertStable (k : Nat × Nat) (e : Entry α) : ∀ (l : List (Entry α)), Sorted l →
    (insertStable e l).filter (hasKey k) =
      if hasKey k e then l.filter (hasKey k) ++ [e] else l.filter (hasKey k) := by
  intro l
  induction l with
  | nil => intro _; cases h : hasKey k e <;> simp [insertStable, h]
  | cons x r ih =>
    intro hs
    have hs' : (∀ a' ∈ r, keyLe x a' = true) ∧ Sorted r := List.pairwise_cons.1 hs
    unfold insertStable
    split
    · rename_i hlt
      cases he : hasKey k e
      · simp [List.filter_cons, he]
      · -- every later entry has a strictly larger key, so none has key `k`
        have hnone : (x :: r).filter (hasKey k) = [] := by
          rw [List.filter_eq_nil_iff]
          intro a' ha' hk
          have hle : keyLe x a' = true := by
            rcases List.mem_cons.1 ha' with rfl | ha'
            · exact keyLe_refl _
            · exact hs'.1 a' ha'
          rw [hasKey_iff] at he hk
          rw [keyLt_iff] at hlt
          rw [keyLe_iff] at hle
          omega
        rw [List.filter_cons, he, hnone]
        simp
    · rename_i hlt
      rw [List.filter_cons, ih hs'.2, List.filter_cons]
      cases he : hasKey k e <;> cases hx : hasKey k x <;> simp

theorem filter_add (k : Nat × Nat) {l : List (Entry α)} (e : Entry α) (hs : Sorted l) :
    (add l e).filter (hasKey k) =
      if hasKey k e then l.filter (hasKey k) ++ [e] else l.filter (hasKey k) :=
  filter_insertStable k e l hs

theorem filter_foldl_add (k : Nat × Nat) (es : List (Entry α)) : ∀ acc : List (Entry α), Sorted acc →
    (es.foldl add acc).filter (hasKey k) = acc.filter (hasKey k) ++ es.filter (hasKey k) := by
  induction es with
  | nil => intro acc _; simp
  | cons e es ih =>
    intro acc hs
    simp only [List.foldl_cons]
    rw [ih _ (add_sorted hs), filter_add k e hs, List.filter_cons]
    cases he : hasKey k e <;> simp

/-- Stability: for every key, the entries carrying that key appear in the layout exactly in their
insertion order.  (So for *equal* keys the layout does depend on the insertion order, and this is
the only dependence: see `buildLayout_eq_iff`.) -/
theorem buildLayout_stable (es : List (Entry α)) (k : Nat × Nat) :
    (buildLayout es).filter (hasKey k) = es.filter (hasKey k) := by
  simpa [buildLayout] using filter_foldl_add k es [] sorted_nil

theorem hasKey_self (a : Entry α) : hasKey (a.index, a.offset) a = true := by simp [hasKey]

/-- A sorted list is determined by its per-key subsequences. -/
theorem sorted_eq_of_filter_eq : ∀ {l₁ l₂ : List (Entry α)}, Sorted l₁ → Sorted l₂ →
    (∀ k, l₁.filter (hasKey k) = l₂.filter (hasKey k)) → l₁ = l₂
  | [], [], _, _, _ => rfl
  | [], b :: r, _, _, h => by
    have := h (b.index, b.offset)
    simp [List.filter_cons, hasKey_self] at this
  | a :: r, [], _, _, h => by
    have := h (a.index, a.offset)
    simp [List.filter_cons, hasKey_self] at this
  | a :: r₁, b :: r₂, h1, h2, h => by
    have h1' : (∀ a' ∈ r₁, keyLe a a' = true) ∧ Sorted r₁ := List.pairwise_cons.1 h1
    have h2' : (∀ a' ∈ r₂, keyLe b a' = true) ∧ Sorted r₂ := List.pairwise_cons.1 h2
    have hab : keyLe a b = true := by
      have hm : b ∈ (a :: r₁).filter (hasKey (b.index, b.offset)) := by
        rw [h]; simp [List.filter_cons, hasKey_self]
      rcases List.mem_cons.1 (List.mem_filter.1 hm).1 with rfl | hm'
      · exact keyLe_refl _
      · exact h1'.1 _ hm'
    have hba : keyLe b a = true := by
      have hm : a ∈ (b :: r₂).filter (hasKey (a.index, a.offset)) := by
        rw [← h]; simp [List.filter_cons, hasKey_self]
      rcases List.mem_cons.1 (List.mem_filter.1 hm).1 with rfl | hm'
      · exact keyLe_refl _
      · exact h2'.1 _ hm'
    have hk := keyLe_antisymm_key hab hba
    have hkb : hasKey (a.index, a.offset) b = true := by
      rw [hasKey_iff]; exact ⟨hk.1.symm, hk.2.symm⟩
    have h0 := h (a.index, a.offset)
    rw [List.filter_cons, List.filter_cons, hasKey_self, hkb] at h0
    simp only [if_true] at h0
    have hab' : a = b := (List.cons.inj h0).1
    subst hab'
    congr 1
    apply sorted_eq_of_filter_eq h1'.2 h2'.2
    intro k
    have hk := h k
    rw [List.filter_cons, List.filter_cons] at hk
    cases hka : hasKey k a <;> simp [hka] at hk <;> exact hk

/-- Exactly what the layout depends on: two insertion sequences give the same layout iff, for each
key, they present the entries carrying that key in the same order. -/
theorem buildLayout_eq_iff (es₁ es₂ : List (Entry α)) :
    buildLayout es₁ = buildLayout es₂ ↔
      ∀ k, es₁.filter (hasKey k) = es₂.filter (hasKey k) := by
  constructor
  · intro h k
    rw [← buildLayout_stable es₁ k, ← buildLayout_stable es₂ k, h]
  · intro h
    apply sorted_eq_of_filter_eq (buildLayout_sorted es₁) (buildLayout_sorted es₂)
    intro k
    rw [buildLayout_stable, buildLayout_stable, h]

/-- An input that is already ordered by key is its own layout. -/
theorem buildLayout_of_sorted {l : List (Entry α)} (h : Sorted l) : buildLayout l = l :=
  sorted_eq_of_filter_eq (buildLayout_sorted l) h (buildLayout_stable l)

/-- The smallest order-dependent instance: two entries with the same key stay in insertion order. -/
theorem buildLayout_equal_keys_order (a b : Entry α) (h : a.index = b.index ∧ a.offset = b.offset) :
    buildLayout [a, b] = [a, b] ∧ buildLayout [b, a] = [b, a] := by
  have sorted : ∀ x y : Entry α, x.index = y.index ∧ x.offset = y.offset → Sorted [x, y] :=
    fun x y hk => List.pairwise_pair.2 (by rw [keyLe_iff]; omega)
  exact ⟨buildLayout_of_sorted (sorted a b h), buildLayout_of_sorted (sorted b a ⟨h.1.symm, h.2.symm⟩)⟩

end Container

/-! ## B. `Itertools::unique` -/

section Unique
variable {α : Type} [BEq α] [LawfulBEq α]

/-- one step of `unique` -/
def uStep (acc : List α) (x : α) : List α := if acc.contains x then acc else acc ++ [x]

omit [LawfulBEq α] in
theorem unique_eq (l : List α) : unique l = l.foldl uStep [] := rfl

theorem mem_uStep {acc : List α} {x y : α} : y ∈ uStep acc x ↔ y ∈ acc ∨ y = x := by
  unfold uStep
  split
  · rename_i h
    have hx : x ∈ acc := by simpa using h
    constructor
    · exact Or.inl
    · rintro (h | rfl)
      · exact h
      · exact hx
  · simp

theorem mem_foldl_uStep (l : List α) : ∀ (acc : List α) (y : α),
    y ∈ l.foldl uStep acc ↔ y ∈ acc ∨ y ∈ l := by
  induction l with
  | nil => intro acc y; simp
  | cons x l ih =>
    intro acc y
    simp only [List.foldl_cons, ih, mem_uStep, List.mem_cons, or_assoc]

theorem nodup_uStep {acc : List α} {x : α} (h : acc.Nodup) : (uStep acc x).Nodup := by
  unfold uStep
  split
  · exact h
  · rename_i hc
    have hx : x ∉ acc := by simpa using hc
    rw [List.nodup_append]
    refine ⟨h, by simp, ?_⟩
    intro a ha b hb
    rw [List.mem_singleton] at hb
    subst hb
    intro hab
    subst hab
    exact hx ha

theorem nodup_foldl_uStep (l : List α) : ∀ acc : List α, acc.Nodup → (l.foldl uStep acc).Nodup := by
  induction l with
  | nil => intro acc h; exact h
  | cons x l ih => intro acc h; exact ih _ (nodup_uStep h)

/-- `unique` has no duplicates. -/
theorem unique_nodup (l : List α) : (unique l).Nodup :=
  nodup_foldl_uStep l [] List.nodup_nil

/-- `unique` keeps exactly the elements of its input. -/
theorem mem_unique {l : List α} {x : α} : x ∈ unique l ↔ x ∈ l := by
  rw [unique_eq, mem_foldl_uStep]; simp

/-- Whatever the order of the input, `unique` yields the same *set* of elements. -/
theorem unique_perm_set {l₁ l₂ : List α} (h : l₁.Perm l₂) (x : α) :
    x ∈ unique l₁ ↔ x ∈ unique l₂ := by
  rw [mem_unique, mem_unique]; exact h.mem_iff

/-- `unique` is the identity on duplicate-free input; for the induction, with the accumulator of
its fold. -/
theorem unique_of_nodup_aux (l : List α) : ∀ acc : List α, (acc ++ l).Nodup →
    l.foldl uStep acc = acc ++ l := by
  induction l with
  | nil => intro acc _; simp
  | cons x l ih =>
    intro acc h
    have hx : x ∉ acc := by
      intro hx
      rw [List.nodup_append] at h
      exact h.2.2 x hx x List.mem_cons_self rfl
    have hs : uStep acc x = acc ++ [x] := by
      unfold uStep
      rw [if_neg]
      simpa using hx
    simp only [List.foldl_cons, hs]
    rw [ih (acc ++ [x]) (by simpa using h)]
    simp

theorem unique_of_nodup {l : List α} (h : l.Nodup) : unique l = l := by
  simpa [unique_eq] using unique_of_nodup_aux l [] (by simpa using h)

end Unique

/-! ## C. Order-independence of the per-class fold -/

section FoldC

/-- one step of the per-class fold -/
def step (acc : Outcome) (e : TE) : Outcome :=
  let o := outcome acc.1 e; (o.1, acc.2 ++ o.2)

theorem foldMerge_cons (x : TE) (l : List TE) : foldMerge (x :: l) = some (l.foldl step (x, [])) := rfl

/-! ### `OutEq` is an equivalence relation -/

theorem ExprEqMod.symm {E : List (Nat × Nat)} {x y : TE} (h : ExprEqMod E x y) : ExprEqMod E y x := by
  cases x with
  | fixedArray a la =>
    cases y with
    | fixedArray b lb => exact ⟨h.1.symm, h.2.symm⟩
    | _ => cases h
  | mapping k v =>
    cases y with
    | mapping k' v' => exact ⟨h.1.symm, h.2.symm⟩
    | _ => cases h
  | dynamicArray a =>
    cases y with
    | dynamicArray b => exact Equiv.symm h
    | _ => cases h
  | _ => cases h; rfl

theorem ExprEqMod.trans {E : List (Nat × Nat)} {x y z : TE} (h1 : ExprEqMod E x y)
    (h2 : ExprEqMod E y z) : ExprEqMod E x z := by
  cases x with
  | fixedArray a la =>
    cases y with
    | fixedArray b lb =>
      cases z with
      | fixedArray c lc => exact ⟨h1.1.trans h2.1, h1.2.trans h2.2⟩
      | _ => cases h2
    | _ => cases h1
  | mapping k v =>
    cases y with
    | mapping k' v' =>
      cases z with
      | mapping k'' v'' => exact ⟨h1.1.trans h2.1, h1.2.trans h2.2⟩
      | _ => cases h2
    | _ => cases h1
  | dynamicArray a =>
    cases y with
    | dynamicArray b =>
      cases z with
      | dynamicArray c => exact Equiv.trans h1 h2
      | _ => cases h2
    | _ => cases h1
  | _ => cases h1; exact h2

theorem OutEq.refl (o : Outcome) : OutEq o o := OutEq.same rfl (EqvL.refl _)

theorem OutEq.symm {o1 o2 : Outcome} (h : OutEq o1 o2) : OutEq o2 o1 := by
  rcases h with ⟨h1, h2⟩ | ⟨h1, h2, hq, hx⟩
  · exact .inl ⟨h2, h1⟩
  · exact .inr ⟨h2, h1, fun x y => (hq x y).symm, (ExprEqMod.congr hq _ _).1 (ExprEqMod.symm hx)⟩

theorem OutEq.trans {o1 o2 o3 : Outcome} (h : OutEq o1 o2) (h' : OutEq o2 o3) : OutEq o1 o3 := by
  rcases h with ⟨h1, h2⟩ | ⟨h1, h2, hq, hx⟩
  · rcases h' with ⟨_, h3⟩ | ⟨h3, _⟩
    · exact .inl ⟨h1, h3⟩
    · exact absurd h2 h3
  · rcases h' with ⟨h3, _⟩ | ⟨_, h3, hq', hx'⟩
    · exact absurd h3 h2
    · exact .inr ⟨h1, h3, fun x y => (hq x y).trans (hq' x y),
        ExprEqMod.trans hx ((ExprEqMod.congr hq _ _).2 hx')⟩

/-! ### Congruence of a fold step -/

theorem EqvL.app {q q' s s' : List (Nat × Nat)} (h : EqvL q q')
    (h1 : ∀ p ∈ s, Equiv (q' ++ s') p.1 p.2) (h2 : ∀ p ∈ s', Equiv (q ++ s) p.1 p.2) :
    EqvL (q ++ s) (q' ++ s') := by
  apply EqvL.of_gens
  · intro p hp
    rcases List.mem_append.1 hp with hp | hp
    · exact Equiv.inl ((h _ _).1 (.base hp))
    · exact h1 p hp
  · intro p hp
    rcases List.mem_append.1 hp with hp | hp
    · exact Equiv.inl ((h _ _).2 (.base hp))
    · exact h2 p hp

/-- prefixing both equality lists with the same equalities -/
theorem OutEq.pre (q : List (Nat × Nat)) {o1 o2 : Outcome} (h : OutEq o1 o2) :
    OutEq (o1.1, q ++ o1.2) (o2.1, q ++ o2.2) := by
  rcases h with ⟨h1, h2⟩ | ⟨h1, h2, hq, hx⟩
  · exact .inl ⟨h1, h2⟩
  · exact .inr ⟨h1, h2, EqvL.append (EqvL.refl q) hq, ExprEqMod.mono (fun _ _ => Equiv.inr) hx⟩

theorem OutEq.mk' {x x' : TE} {q q' s s' : List (Nat × Nat)} (hx : x ≠ .conflict)
    (hx' : x' ≠ .conflict) (hq : EqvL q q')
    (h1 : ∀ p ∈ s, Equiv (q' ++ s') p.1 p.2) (h2 : ∀ p ∈ s', Equiv (q ++ s) p.1 p.2)
    (he : ExprEqMod (q ++ s) x x') : OutEq (x, q ++ s) (x', q' ++ s') :=
  .inr ⟨hx, hx', EqvL.app hq h1 h2, he⟩

/-- the step in terms of the closed form `outcomeN` -/
def stepN (acc : Outcome) (c : TE) : Outcome :=
  ((outcomeN acc.1 c).1, acc.2 ++ (outcomeN acc.1 c).2)

theorem step_fst (acc : Outcome) (c : TE) (ha : PF acc.1 = true) (hc : PF c = true) :
    (step acc c).1 = (stepN acc c).1 := outcome_fst _ _ ha hc

theorem step_snd (acc : Outcome) (c : TE) (ha : PF acc.1 = true) (hc : PF c = true) :
    EqvL (step acc c).2 (stepN acc c).2 := EqvL.append (EqvL.refl _) (outcome_snd _ _ ha hc)

theorem step_pf (acc : Outcome) (c : TE) (ha : PF acc.1 = true) (hc : PF c = true) :
    PF (step acc c).1 = true := outcome_pf _ _ ha hc

/-- `s` is what merging `e` with `c` emits, `e` stays, and `s` is the least set of equalities that
makes `e` and `c` equal up to their components. -/
def Joins (e c : TE) (s : List (Nat × Nat)) : Prop :=
  outcomeN e c = (e, s) ∧ ExprEqMod s e c ∧ ∀ E, ExprEqMod E e c → ∀ p ∈ s, Equiv E p.1 p.2

/-- Two accumulators that differ in equated components only meet `c` in the same way: the result
does not mention them, or each stays as it is, or each is joined with `c` componentwise. -/
theorem oN_congr {q : List (Nat × Nat)} {e e' c : TE} (hx : ExprEqMod q e e') (hc : PF c = true) :
    e = e' ∨
    ((outcomeN e c).1 = (outcomeN e' c).1 ∧ (outcomeN e c).2 = [] ∧ (outcomeN e' c).2 = []) ∨
    (outcomeN e c = (e, []) ∧ outcomeN e' c = (e', [])) ∨
    ∃ s s', Joins e c s ∧ Joins e' c s' := by
  have one : ∀ (E : List (Nat × Nat)) (x y : Nat), Equiv E x y → ∀ p ∈ [(x, y)], Equiv E p.1 p.2 :=
    fun E x y h p hp => by rw [List.mem_singleton] at hp; subst hp; exact h
  cases e with
  | fixedArray a la =>
    cases e' with
    | fixedArray b lb =>
      obtain ⟨rfl, _⟩ := hx
      cases c <;> simp [PF] at hc
      case any => exact .inr (.inr (.inl ⟨rfl, rfl⟩))
      case fixedArray r lr =>
        by_cases hl : la = lr
        · subst hl
          have e : ∀ x, outcomeN (.fixedArray x la) (.fixedArray r la) = (.fixedArray x la, [(x, r)]) :=
            fun x => by rw [oN_FF, if_pos rfl]
          exact .inr (.inr (.inr ⟨_, _, ⟨e a, ⟨rfl, Equiv.head⟩, fun E h => one E _ _ h.2⟩,
            ⟨e b, ⟨rfl, Equiv.head⟩, fun E h => one E _ _ h.2⟩⟩))
        · have e : ∀ x, outcomeN (.fixedArray x la) (.fixedArray r lr) = (.conflict, []) :=
            fun x => by rw [oN_FF, if_neg hl]
          exact .inr (.inl ⟨by rw [e, e], by rw [e], by rw [e]⟩)
      all_goals exact .inr (.inl ⟨rfl, rfl, rfl⟩)
    | _ => cases hx
  | mapping k v =>
    cases e' with
    | mapping k' v' =>
      cases c <;> simp [PF] at hc
      case any => exact .inr (.inr (.inl ⟨rfl, rfl⟩))
      case mapping rk rv =>
        have two : ∀ (E : List (Nat × Nat)) (x y x' y' : Nat), Equiv E x y ∧ Equiv E x' y' →
            ∀ p ∈ [(x, y), (x', y')], Equiv E p.1 p.2 := fun E x y x' y' h p hp => by
          rcases List.mem_cons.1 hp with rfl | hp
          · exact h.1
          · exact one E _ _ h.2 p hp
        exact .inr (.inr (.inr ⟨_, _, ⟨rfl, ⟨Equiv.head, Equiv.head.tail⟩, fun E h => two E _ _ _ _ h⟩,
          ⟨rfl, ⟨Equiv.head, Equiv.head.tail⟩, fun E h => two E _ _ _ _ h⟩⟩))
      all_goals exact .inr (.inl ⟨rfl, rfl, rfl⟩)
    | _ => cases hx
  | dynamicArray a =>
    cases e' with
    | dynamicArray b =>
      cases c <;> simp [PF] at hc
      case any => exact .inr (.inr (.inl ⟨rfl, rfl⟩))
      case word w u =>
        rw [oN_DW, oN_DW]
        cases u.isDefinitelySigned
        · exact .inr (.inr (.inl ⟨rfl, rfl⟩))
        · exact .inr (.inl ⟨rfl, rfl, rfl⟩)
      case dynamicArray r =>
        exact .inr (.inr (.inr ⟨_, _, ⟨rfl, Equiv.head, fun E h => one E _ _ h⟩,
          ⟨rfl, Equiv.head, fun E h => one E _ _ h⟩⟩))
      all_goals exact .inr (.inl ⟨rfl, rfl, rfl⟩)
    | _ => cases hx
  | _ => exact .inl hx

theorem stepN_congr {acc acc' : Outcome} (h : OutEq acc acc') (c : TE) (hc : PF c = true) :
    OutEq (stepN acc c) (stepN acc' c) := by
  obtain ⟨e, q⟩ := acc
  obtain ⟨e', q'⟩ := acc'
  rcases h with ⟨h1, h2⟩ | ⟨h1, h2, hq, hx⟩
  · simp only at h1 h2
    subst h1; subst h2
    exact OutEq.conf (by simp [stepN, oN_conf_l]) (by simp [stepN, oN_conf_l])
  · have hq' : EqvL q q' := hq
    have hx' : ExprEqMod q' e e' := (ExprEqMod.congr hq' _ _).1 hx
    rcases oN_congr hx hc with rfl | ⟨r, s, s'⟩ | ⟨r, r'⟩ | ⟨s, s', J, J'⟩
    · exact OutEq.same rfl (EqvL.append hq' (EqvL.refl _))
    · unfold stepN
      rw [r, s, s']
      exact OutEq.same rfl (EqvL.append hq' (EqvL.refl _))
    · unfold stepN
      rw [r, r']
      exact OutEq.mk' h1 h2 hq' nofun nofun (ExprEqMod.mono (fun _ _ => Equiv.inl) hx)
    · unfold stepN
      rw [J.1, J'.1]
      refine OutEq.mk' h1 h2 hq' ?_ ?_ (ExprEqMod.mono (fun _ _ => Equiv.inl) hx)
      · exact J.2.2 _ (ExprEqMod.trans (ExprEqMod.mono (fun _ _ => Equiv.inl) hx')
          (ExprEqMod.mono (fun _ _ => Equiv.inr) J'.2.1))
      · exact J'.2.2 _ (ExprEqMod.trans (ExprEqMod.symm (ExprEqMod.mono (fun _ _ => Equiv.inl) hx))
          (ExprEqMod.mono (fun _ _ => Equiv.inr) J.2.1))

/-- Congruence: a fold step respects `OutEq` of the accumulators (the accumulated expressions may
differ in the choice of representative variables, as long as those are equated). -/
theorem step_congr {acc acc' : Outcome} (h : OutEq acc acc') (ha : PF acc.1 = true)
    (ha' : PF acc'.1 = true) (c : TE) (hc : PF c = true) : OutEq (step acc c) (step acc' c) :=
  (OutEq.congr (step_fst acc c ha hc) (step_snd acc c ha hc) (step_fst acc' c ha' hc)
    (step_snd acc' c ha' hc)).2 (stepN_congr h c hc)

theorem foldl_step_pf (l : List TE) : ∀ acc : Outcome, PF acc.1 = true → (∀ e ∈ l, PF e = true) →
    PF (l.foldl step acc).1 = true := by
  induction l with
  | nil => intro acc h _; exact h
  | cons x l ih =>
    intro acc h hl
    exact ih _ (step_pf acc x h (hl x List.mem_cons_self)) (fun e he => hl e (List.mem_cons_of_mem _ he))

theorem fold_congr (l : List TE) : ∀ {acc acc' : Outcome}, OutEq acc acc' → PF acc.1 = true →
    PF acc'.1 = true → (∀ e ∈ l, PF e = true) → OutEq (l.foldl step acc) (l.foldl step acc') := by
  induction l with
  | nil => intro acc acc' h _ _ _; exact h
  | cons x l ih =>
    intro acc acc' h ha ha' hl
    have hx := hl x List.mem_cons_self
    exact ih (step_congr h ha ha' x hx) (step_pf acc x ha hx) (step_pf acc' x ha' hx)
      (fun e he => hl e (List.mem_cons_of_mem _ he))

/-! ### Swapping two adjacent pieces of evidence -/

theorem step_step (a : TE) (q : List (Nat × Nat)) (x y : TE) :
    step (step (a, q) x) y = ((groupL a x y).1, q ++ (groupL a x y).2) := by
  simp [step, groupL, List.append_assoc]

theorem groupL_swap (a x y : TE) (ha : PF a = true) (hx : PF x = true) (hy : PF y = true)
    (h1 : Bad a x y = false) (h2 : Bad a y x = false) : OutEq (groupL a x y) (groupL a y x) := by
  have e1 : OutEq (groupL a x y) (groupR a x y) := merge_assoc_partial a x y ha hx hy h1
  have e2 : OutEq (groupL a y x) (groupR a y x) := merge_assoc_partial a y x ha hy hx h2
  have c1 : OutEq (groupR a x y) (step (outcome x y) a) :=
    OutEq.pre (outcome x y).2 (merge_comm a (outcome x y).1 ha (outcome_pf x y hx hy))
  have c2 : OutEq (groupR a y x) (step (outcome y x) a) :=
    OutEq.pre (outcome y x).2 (merge_comm a (outcome y x).1 ha (outcome_pf y x hy hx))
  have c3 : OutEq (step (outcome x y) a) (step (outcome y x) a) :=
    step_congr (merge_comm x y hx hy) (outcome_pf x y hx hy) (outcome_pf y x hy hx) a ha
  exact OutEq.trans e1 (OutEq.trans c1 (OutEq.trans c3 (OutEq.trans (OutEq.symm c2) (OutEq.symm e2))))

theorem step_swap (acc : Outcome) (x y : TE) (ha : PF acc.1 = true) (hx : PF x = true)
    (hy : PF y = true) (h1 : Bad acc.1 x y = false) (h2 : Bad acc.1 y x = false) :
    OutEq (step (step acc x) y) (step (step acc y) x) := by
  obtain ⟨a, q⟩ := acc
  rw [step_step, step_step]
  exact OutEq.pre q (groupL_swap a x y ha hx hy h1 h2)

/-! ### The closure lemma: merging keeps the accumulator out of `Bad` -/

/-- In the usage table, three usages that join pairwise join together. -/
theorem use_triple (u1 u2 u3 : WordUse) (h12 : (u1.merge u2).isSome = true)
    (h13 : (u1.merge u3).isSome = true) (h23 : (u2.merge u3).isSome = true) :
    ((u1.merge u2).bind (·.merge u3)).isSome = true := by
  have h : (WordUse.all.all fun u1 => WordUse.all.all fun u2 => WordUse.all.all fun u3 =>
      !((u1.merge u2).isSome && (u1.merge u3).isSome && (u2.merge u3).isSome) ||
        ((u1.merge u2).bind (·.merge u3)).isSome) = true := by
    decide +kernel
  have := WordUse.forall_of_all (WordUse.forall_of_all (WordUse.forall_of_all h u1) u2) u3
  rwa [h12, h13, h23] at this

theorem wjoin_triple (w1 w2 w3 : Option Nat) : (wjoin w1 w2).isSome = true →
    (wjoin w1 w3).isSome = true → (wjoin w2 w3).isSome = true →
    ((wjoin w1 w2).bind (wjoin · w3)).isSome = true := by
  cases w1 <;> cases w2 <;> cases w3 <;> simp [wjoin] <;> intros <;> simp_all [wjoin]

theorem wj_isSome (w1 u1 w2 u2) :
    (wj w1 u1 w2 u2).isSome = ((wjoin w1 w2).isSome && (u1.merge u2).isSome) := by
  unfold wj
  cases wjoin w1 w2 <;> cases u1.merge u2 <;> rfl

theorem wj_triple (w1 u1 w2 u2 w3 u3) (h12 : (wj w1 u1 w2 u2).isSome = true)
    (h13 : (wj w1 u1 w3 u3).isSome = true) (h23 : (wj w2 u2 w3 u3).isSome = true) :
    ((wj w1 u1 w2 u2).bind fun p => wj p.1 p.2 w3 u3).isSome = true := by
  rw [wj_isSome, Bool.and_eq_true] at h12 h13 h23
  have hw := wjoin_triple w1 w2 w3 h12.1 h13.1 h23.1
  have hu := use_triple u1 u2 u3 h12.2 h13.2 h23.2
  unfold wj at *
  cases h1 : wjoin w1 w2 with
  | none => rw [h1] at hw; cases hw
  | some w =>
    cases h2 : u1.merge u2 with
    | none => rw [h2] at hu; cases hu
    | some u =>
      rw [h1] at hw; rw [h2] at hu
      simp only [Option.bind_some] at hw hu ⊢
      cases h3 : wjoin w w3 with
      | none => rw [h3] at hw; cases hw
      | some w' =>
        cases h4 : u.merge u3 with
        | none => rw [h4] at hu; cases hu
        | some u' => rfl

/-- On words, pairwise joinability implies joint joinability. -/
theorem conflictsN_join (a x y : TE) (ha : nsWord a = true) (hx : nsWord x = true)
    (hy : nsWord y = true) (hax : conflictsN a x = false) (hay : conflictsN a y = false)
    (hxy : conflictsN x y = false) : conflictsN (outcomeN a x).1 y = false := by
  cases a <;> simp [nsWord] at ha
  cases x <;> simp [nsWord] at hx
  cases y <;> simp [nsWord] at hy
  rename_i w1 u1 w2 u2 w3 u3
  rw [conflictsN_WW] at hax hay hxy
  simp only [conflictsN, oN_WW, outN_toTE_word, toTE_beq]
  have := wj_triple w1 u1 w2 u2 w3 u3 (by simpa using hax) (by simpa using hay) (by simpa using hxy)
  simp [this]

/-- Closure: if neither `a` nor `x` forms a bad triple with `y`, `z`, their merge does not either. -/
theorem closureN (a x y z : TE) (ha : PF a = true) (hx : PF x = true)
    (h1 : BadN a y z = false) (h2 : BadN x y z = false) : BadN (outcomeN a x).1 y z = false := by
  rcases oN_select a x ha hx with h | h | h | ⟨w1, u1, w2, u2, rfl, rfl⟩
  · rw [h]; exact BadN_conflict y z
  · rw [h]; exact h1
  · rw [h]; exact h2
  · -- two words joined: bad only if swallowed by `z` together with a word `y` they conflict with,
    -- and then one of the two conflicts with `y` already
    rw [oN_WW]
    cases hw : wj w1 u1 w2 u2 with
    | none => exact BadN_conflict y z
    | some p =>
      obtain ⟨w, u⟩ := p
      refine Bool.eq_false_iff.2 fun hB => ?_
      rw [show (toTE (some (w, u)), ([] : List (Nat × Nat))).1 = .word w u from rfl, BadN_word] at hB
      simp only [Bool.and_eq_true] at hB
      obtain ⟨⟨⟨hA, hr⟩, hy⟩, hc⟩ := hB
      have hs : (u1.isDefinitelySigned || u2.isDefinitelySigned) = false := by
        rw [← wj_signed hw]; simpa [nsWord] using hr
      rw [Bool.or_eq_false_iff] at hs
      have hna : nsWord (.word w1 u1) = true := by simp [nsWord, hs.1]
      have hnx : nsWord (.word w2 u2) = true := by simp [nsWord, hs.2]
      have hax : conflictsN (.word w1 u1) (.word w2 u2) = false := by rw [conflictsN_WW, hw]; rfl
      have hay := Bool.eq_false_iff.2 fun h => Bool.eq_false_iff.1 h1 (BadN_of2 hA hna hy h)
      have hxy := Bool.eq_false_iff.2 fun h => Bool.eq_false_iff.1 h2 (BadN_of2 hA hnx hy h)
      have := conflictsN_join _ _ y hna hnx hy hax hay hxy
      rw [oN_WW, hw] at this
      exact Bool.eq_false_iff.1 this hc

theorem closure (a x y z : TE) (ha : PF a = true) (hx : PF x = true) (hy : PF y = true)
    (hz : PF z = true) (h1 : Bad a y z = false) (h2 : Bad x y z = false) :
    Bad (outcome a x).1 y z = false := by
  rw [Bad_eq _ _ _ (outcome_pf a x ha hx) hy hz, outcome_fst a x ha hx]
  rw [Bad_eq _ _ _ ha hy hz] at h1
  rw [Bad_eq _ _ _ hx hy hz] at h2
  exact closureN a x y z ha hx h1 h2

/-! ### The fold is invariant under permutations -/

/-- The invariant carried along the fold: the accumulator `a` forms no bad triple with two
remaining pieces of evidence, and the remaining evidence contains no bad triple. -/
def Ok3 (a : TE) (l : List TE) : Prop :=
  (∀ x ∈ l, ∀ y ∈ l, Bad a x y = false) ∧ NoBadTriple l

theorem Ok3.perm {a : TE} {l l' : List TE} (hp : l.Perm l') (h : Ok3 a l) : Ok3 a l' :=
  ⟨fun x hx y hy => h.1 x (hp.mem_iff.2 hx) y (hp.mem_iff.2 hy),
   fun x hx y hy z hz => h.2 x (hp.mem_iff.2 hx) y (hp.mem_iff.2 hy) z (hp.mem_iff.2 hz)⟩

theorem Ok3.step {a x : TE} {l : List TE} (ha : PF a = true) (hl : ∀ e ∈ x :: l, PF e = true)
    (h : Ok3 a (x :: l)) : Ok3 (outcome a x).1 l := by
  have hx := hl x List.mem_cons_self
  refine ⟨fun y hy z hz => ?_, fun p hp q hq r hr => ?_⟩
  · have hy' := List.mem_cons_of_mem x hy
    have hz' := List.mem_cons_of_mem x hz
    exact closure a x y z ha hx (hl y hy') (hl z hz') (h.1 y hy' z hz')
      (h.2 x List.mem_cons_self y hy' z hz')
  · exact h.2 p (List.mem_cons_of_mem x hp) q (List.mem_cons_of_mem x hq) r (List.mem_cons_of_mem x hr)

/-- Core of C: from any accumulator that satisfies the invariant, folding two permutations of the
same evidence gives the same outcome. -/
theorem fold_perm {l l' : List TE} (hp : l.Perm l') : ∀ acc : Outcome, PF acc.1 = true →
    (∀ e ∈ l, PF e = true) → Ok3 acc.1 l → OutEq (l.foldl step acc) (l'.foldl step acc) := by
  induction hp with
  | nil => intro acc _ _ _; exact OutEq.refl _
  | cons x _ ih =>
    intro acc ha hl hok
    simp only [List.foldl_cons]
    exact ih (step acc x) (step_pf acc x ha (hl x List.mem_cons_self))
      (fun e he => hl e (List.mem_cons_of_mem _ he)) (Ok3.step ha hl hok)
  | swap x y l =>
    intro acc ha hl hok
    simp only [List.foldl_cons]
    have hy : PF y = true := hl y List.mem_cons_self
    have hx : PF x = true := hl x (List.mem_cons_of_mem _ List.mem_cons_self)
    have hmy : y ∈ y :: x :: l := List.mem_cons_self
    have hmx : x ∈ y :: x :: l := List.mem_cons_of_mem _ List.mem_cons_self
    refine fold_congr l (step_swap acc y x ha hy hx (hok.1 y hmy x hmx) (hok.1 x hmx y hmy))
      (step_pf _ _ (step_pf _ _ ha hy) hx) (step_pf _ _ (step_pf _ _ ha hx) hy)
      (fun e he => hl e (List.mem_cons_of_mem _ (List.mem_cons_of_mem _ he)))
  | trans h1 h2 ih1 ih2 =>
    intro acc ha hl hok
    exact OutEq.trans (ih1 acc ha hl hok)
      (ih2 acc ha (fun e he => hl e (h1.mem_iff.2 he)) (Ok3.perm h1 hok))

theorem step_any (x : TE) (hx : PF x = true) : step (.any, []) x = (x, []) := by
  show ((outcome .any x).1, [] ++ (outcome .any x).2) = _
  rw [outcome_any_l x hx]; rfl

/-- The fold started at the first piece of evidence is the fold started at the unit `any`. -/
theorem foldMerge_eq_fold_any (x : TE) (l : List TE) (hx : PF x = true) :
    foldMerge (x :: l) = some ((x :: l).foldl step (.any, [])) := by
  rw [foldMerge_cons, List.foldl_cons, step_any x hx]

theorem Bad_any (x y : TE) : Bad .any x y = false := by
  simp [Bad, absorber, nsWord]

/-- **C.** On the `Equal`-free, packed-free fragment, if no three pieces of evidence of a class fall
in the non-associativity region `Bad`, then the per-class fold gives the same outcome (up to
conflict wording and choice of representative among equated variables) for every order of the
evidence.  `NoBadTriple` on the *original* evidence suffices: see `closure`. -/
theorem foldMerge_perm {l₁ l₂ : List TE} (hpf : ∀ e ∈ l₁, PF e = true) (hnb : NoBadTriple l₁)
    (hp : l₁.Perm l₂) (hne : l₁ ≠ []) :
    ∃ o₁ o₂, foldMerge l₁ = some o₁ ∧ foldMerge l₂ = some o₂ ∧ OutEq o₁ o₂ := by
  cases l₁ with
  | nil => exact absurd rfl hne
  | cons x r =>
    cases l₂ with
    | nil => exact absurd hp.eq_nil (by simp)
    | cons y r' =>
      have hy : PF y = true := hpf y (hp.mem_iff.2 List.mem_cons_self)
      exact ⟨_, _, foldMerge_eq_fold_any x r (hpf x List.mem_cons_self),
        foldMerge_eq_fold_any y r' hy, fold_perm hp (.any, []) rfl hpf ⟨fun x _ y _ => Bad_any x y, hnb⟩⟩

/-- `NoBadTriple` is decidable: a `Bool`-valued version. -/
def noBadTripleB (l : List TE) : Bool := l.all fun a => l.all fun b => l.all fun c => !Bad a b c

theorem noBadTripleB_iff (l : List TE) : noBadTripleB l = true ↔ NoBadTriple l := by
  simp [noBadTripleB, NoBadTriple]

instance (l : List TE) : Decidable (NoBadTriple l) :=
  decidable_of_iff _ (noBadTripleB_iff l)

/-! ### The negative witness (finding D11 at the level of the fold) -/

theorem foldMerge_witness₁ :
    foldMerge [.bytes, .word (some 8) .bool, .word (some 160) .address] = some (.bytes, []) := by
  rfl

theorem foldMerge_witness₂ :
    foldMerge [.word (some 8) .bool, .word (some 160) .address, .bytes] = some (.conflict, []) := by
  rfl

/-- Whatever the two folds return, the outcomes are not `OutEq`. -/
theorem foldMerge_order_dependent_witness (o₁ o₂ : Outcome)
    (h₁ : foldMerge [.bytes, .word (some 8) .bool, .word (some 160) .address] = some o₁)
    (h₂ : foldMerge [.word (some 8) .bool, .word (some 160) .address, .bytes] = some o₂) :
    ¬ OutEq o₁ o₂ := by
  rw [foldMerge_witness₁] at h₁
  rw [foldMerge_witness₂] at h₂
  cases h₁; cases h₂
  rintro (⟨h, _⟩ | ⟨_, h, _⟩)
  · cases h
  · exact h rfl

/-- … and, consistently, that evidence contains a bad triple. -/
theorem witness_has_bad_triple :
    ¬ NoBadTriple [.bytes, .word (some 8) .bool, .word (some 160) .address] := by
  decide

end FoldC

end SLE.Layout
