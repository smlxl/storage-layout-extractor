import SLE.Spec.TCSpec
import SLE.Lemmas.LiftShape
/-!
Invariants of the nine lifting passes (C01 totality, C12 spans, C05 storage-free).  Each pass is
shown once to keep every `TreeInv` whose created heads can be made; `NoP p` is such a predicate.
-/
namespace SLE.LiftInv
open SLE SLE.SV SLE.TC SLE.TCSpec SLE.Lift SLE.LiftShape

/-! ### `anyNode` basics -/

theorem anyNodeList_false {p : Kind → List Nat → List SV → Bool} :
    ∀ l : List SV, anyNodeList p l = false ↔ ∀ x ∈ l, anyNode p x = false
  | [] => by simp [anyNodeList]
  | x :: xs => by
    simp only [anyNodeList, Bool.or_eq_false_iff, List.mem_cons, forall_eq_or_imp,
      anyNodeList_false xs]

theorem anyNode_node {q : Kind → List Nat → List SV → Bool} {k a ks s} :
    anyNode q (.node k a ks s) = false ↔ q k a ks = false ∧ ∀ x ∈ ks, anyNode q x = false := by
  simp only [anyNode, Bool.or_eq_false_iff, anyNodeList_false]

mutual
theorem anyNode_mono {p q : Kind → List Nat → List SV → Bool}
    (h : ∀ k a ks, q k a ks = true → p k a ks = true) :
    ∀ t, anyNode p t = false → anyNode q t = false
  | .node k a ks s, ht => by
    simp only [anyNode, Bool.or_eq_false_iff] at ht ⊢
    refine ⟨?_, anyNodeList_mono h ks ht.2⟩
    cases hq : q k a ks with
    | false => rfl
    | true => have := h k a ks hq; simp_all
theorem anyNodeList_mono {p q : Kind → List Nat → List SV → Bool}
    (h : ∀ k a ks, q k a ks = true → p k a ks = true) :
    ∀ l, anyNodeList p l = false → anyNodeList q l = false
  | [], _ => by simp [anyNodeList]
  | x :: xs, hl => by
    simp only [anyNodeList, Bool.or_eq_false_iff] at hl ⊢
    exact ⟨anyNode_mono h x hl.1, anyNodeList_mono h xs hl.2⟩
end

/-- no node of the tree satisfies `p` (a predicate on kind and attributes only) -/
def NoP (p : Kind → List Nat → Bool) (t : SV) : Prop := anyNode (fun k a _ => p k a) t = false

theorem NoP_node {p : Kind → List Nat → Bool} {k a ks s} :
    NoP p (.node k a ks s) ↔ p k a = false ∧ ∀ x ∈ ks, NoP p x := anyNode_node

theorem NoP_rebuild {p : Kind → List Nat → Bool} {k a ks} :
    NoP p (rebuild k a ks) ↔ p k a = false ∧ ∀ x ∈ ks, NoP p x := NoP_node

theorem treeInv_NoP (p : Kind → List Nat → Bool) : TreeInv (NoP p) where
  kids ht := (NoP_node.1 ht).2
  head ht hks := NoP_rebuild.2 ⟨(NoP_node.1 ht).1, hks⟩

theorem makes_NoP {p : Kind → List Nat → Bool} {k a} (h : p k a = false) : Makes (NoP p) k a :=
  fun _ hks => NoP_rebuild.2 ⟨h, hks⟩

theorem NoP_mono {p q : Kind → List Nat → Bool} (h : ∀ k a, q k a = true → p k a = true)
    {t : SV} (ht : NoP p t) : NoP q t :=
  anyNode_mono (fun k a _ => h k a) t ht

theorem NoP_mkKnownNat {p : Kind → List Nat → Bool} (hk : ∀ a, p .knownData a = false) (w : Nat) :
    NoP p (mkKnownNat w) :=
  NoP_node.2 ⟨hk _, fun _ hx => nomatch hx⟩

theorem NoP_mkKnown {p : Kind → List Nat → Bool} (hk : ∀ a, p .knownData a = false) (w : Word) :
    NoP p (mkKnown w) := NoP_mkKnownNat hk w.toNat

/-! ### `fold` -/

theorem fold_NoP {p : Kind → List Nat → Bool} (hk : ∀ a, p .knownData a = false) :
    ∀ t, NoP p t → NoP p (fold t) :=
  fold_inv (treeInv_NoP p) (NoP_mkKnownNat hk)

theorem fold_kind (t : SV) : (fold t).kind = t.kind ∨ (fold t).kind = .knownData := by
  cases t with
  | node k a ks s =>
    simp only [fold]
    rcases foldNode_shape k a (foldList ks) with ⟨w, h, _⟩ | h
    · rw [h]; exact Or.inr rfl
    · rw [h]; exact Or.inl rfl

section passes
variable {I : SV → Prop}

/-! ### pass 1: `slotHashesT` -/

theorem slotHashesT_inv (hk : ∀ w, I (mkKnownNat w)) (hs : Makes I .sha3 []) (h : HashCtx)
    {k a ks k' a' ks'} (e : slotHashesT h k a ks = some (k', a', ks')) : I (rebuild k' a' ks') := by
  unfold slotHashesT at e
  split at e
  · split at e
    · cases e; exact hs _ (List.forall_mem_singleton.2 (hk _))
    · cases e
  · cases e

/-! ### pass 2: `proxySlots` -/

theorem unpickSha3Data_some (h : HashCtx) (v nv : SV) (hv : unpickSha3Data h v = some nv) :
    ∃ w, nv = mkKnownNat w := by
  unfold unpickSha3Data at hv
  repeat' (first | split at hv | (dsimp only at hv; split at hv))
  all_goals first
    | (cases hv; done)
    | (cases hv; exact ⟨_, rfl⟩)

theorem unpickProxySlots_inv (hI : TreeInv I) (hk : ∀ w, I (mkKnownNat w)) (h : HashCtx)
    {key nk : SV} (hkey : I key) (hnk : unpickProxySlots h key = some nk) : I nk := by
  unfold unpickProxySlots at hnk
  split at hnk
  · rename_i a l r s
    have hl : I l := hI.kids hkey l (by simp)
    have hr : I r := hI.kids hkey r (by simp)
    have key : ∀ l' r', I l' → I r' →
        (if ((fold (rebuild .add a [l', r'])).kind == Kind.knownData) = true
          then some (fold (rebuild .add a [l', r'])) else none) = some nk → I nk := by
      intro l' r' hl' hr' hh
      split at hh
      · injection hh with hh
        subst hh
        exact fold_inv hI hk _ (hI.head hkey (forall_mem_two.2 ⟨hl', hr'⟩))
      · cases hh
    dsimp only at hnk
    cases h1 : unpickSha3Data h l with
    | some nl =>
      simp only [h1] at hnk
      obtain ⟨w, rfl⟩ := unpickSha3Data_some h _ _ h1
      exact key _ _ (hk w) hr hnk
    | none =>
      simp only [h1] at hnk
      cases h2 : unpickSha3Data h r with
      | some nr =>
        simp only [h2] at hnk
        obtain ⟨w, rfl⟩ := unpickSha3Data_some h _ _ h2
        exact key _ _ hl (hk w) hnk
      | none =>
        simp only [h2] at hnk
        cases hnk
  · obtain ⟨w, rfl⟩ := unpickSha3Data_some h _ _ hnk
    exact hk w

theorem proxySlots_inv (hI : TreeInv I) (hk : ∀ w, I (mkKnownNat w)) (h : HashCtx) :
    ∀ fuel t, I t → I (proxySlots h fuel t) := by
  intro fuel t
  induction fuel, t using fuelRec with
  | zero v => exact id
  | succ fuel k a ks s ih =>
    intro ht
    have hkey : ∀ key, I key →
        I (match unpickProxySlots h key with
          | some nk => rebuild nk.kind nk.attrs nk.kids | none => proxySlots h fuel key) := by
      intro key hkey
      split
      · exact hI.rewrap (unpickProxySlots_inv hI hk h hkey ‹_›)
      · exact ih key hkey
    have hkids := hI.kids ht
    simp only [proxySlots]
    split
    · exact hI.head ht (forall_mem_two.2 ⟨hkey _ (hkids _ (by simp)), ih _ (hkids _ (by simp))⟩)
    · exact hI.head ht (forall_mem_two.2 ⟨hkey _ (hkids _ (by simp)), ih _ (hkids _ (by simp))⟩)
    · exact hI.map ht ih

/-! ### pass 3: `insertMappingAccesses`, `guarded` -/

theorem insertMappingAccesses_inv (hI : TreeInv I) (hm : Makes I .mappingIndex [0]) :
    ∀ fuel t, I t → I (insertMappingAccesses fuel t) := by
  intro fuel t
  induction fuel, t using fuelRec with
  | zero v => exact id
  | succ fuel k a ks s ih =>
    intro ht
    simp only [insertMappingAccesses]
    split
    · have h1 := hI.kids (hI.kids ht _ (List.mem_singleton.2 rfl))
      exact hm _ (forall_mem_two.2 ⟨ih _ (h1 _ (by simp)), ih _ (h1 _ (by simp))⟩)
    · exact hI.map ht ih

theorem guardStorage_inv (hI : TreeInv I) (inner : SV → SV) (hin : ∀ t, I t → I (inner t))
    {k a ks s k' a' ks'} (ht : I (.node k a ks s))
    (e : guardStorage inner k a ks = some (k', a', ks')) : I (rebuild k' a' ks') := by
  have hkids := hI.kids ht
  unfold guardStorage at e
  split at e
  · cases e
    exact hI.head ht (forall_mem_two.2 ⟨hin _ (hkids _ (by simp)), hin _ (hkids _ (by simp))⟩)
  · cases e
    exact hI.head ht (forall_mem_two.2 ⟨hin _ (hkids _ (by simp)), hin _ (hkids _ (by simp))⟩)
  · cases e
    exact hI.head ht (List.forall_mem_singleton.2 (hin _ (hkids _ (by simp))))
  · cases e

theorem guarded_inv (hI : TreeInv I) (inner : SV → SV) (hin : ∀ t, I t → I (inner t)) :
    ∀ fuel t, I t → I (guarded inner fuel t) := by
  intro fuel t
  induction fuel, t using fuelRec with
  | zero v => exact id
  | succ fuel k a ks s ih =>
    intro ht
    simp only [guarded]
    split
    · exact guardStorage_inv hI inner hin ht ‹_›
    · exact hI.map ht ih

theorem guardStorage_kind {inner : SV → SV} {k a ks r} (e : guardStorage inner k a ks = some r) :
    isStorageKind k = true := by
  unfold guardStorage at e
  split at e
  · rfl
  · rfl
  · rfl
  · cases e

/-- `guarded` on a tree without storage nodes: whatever the inner transform -/
theorem guarded_NoP_free {p : Kind → List Nat → Bool} (inner : SV → SV)
    (hst : ∀ k a, isStorageKind k = true → p k a = true) :
    ∀ fuel t, NoP p t → NoP p (guarded inner fuel t) := by
  intro fuel t
  induction fuel, t using fuelRec with
  | zero v => exact id
  | succ fuel k a ks s ih =>
    intro ht
    simp only [guarded]
    split
    · rename_i heq
      have h1 := (NoP_node.1 ht).1
      rw [hst k a (guardStorage_kind heq)] at h1
      cases h1
    · exact (treeInv_NoP p).map ht ih

/-! ### pass 4: `insertSubWords` -/

theorem lowestSetBit_spec : ∀ fuel w i off, lowestSetBit fuel w i = some off →
    ∃ j, off = i + j ∧ j < fuel ∧ (w / 2 ^ j) % 2 = 1
  | 0, _, _, _, h => by simp [lowestSetBit] at h
  | fuel + 1, w, i, off, h => by
    simp only [lowestSetBit] at h
    split at h
    · rename_i hw
      cases h
      exact ⟨0, by simp, by omega, by simpa using hw⟩
    · obtain ⟨j, h1, h2, h3⟩ := lowestSetBit_spec fuel (w / 2) (i + 1) off h
      refine ⟨j + 1, by omega, by omega, ?_⟩
      rw [Nat.pow_succ, Nat.mul_comm, ← Nat.div_div_eq_div_mul]
      exact h3

theorem runLength_ge : ∀ fuel w n, n ≤ runLength fuel w n
  | 0, _, _ => by simp [runLength]
  | fuel + 1, w, n => by
    simp only [runLength]
    split
    · have := runLength_ge fuel (w / 2) (n + 1); omega
    · exact Nat.le_refl _

theorem getRegion_pos (v : SV) (o l : Nat) (h : getRegion v = some (o, l)) : 1 ≤ l := by
  unfold getRegion at h
  split at h
  · cases h
  · rename_i w _
    split at h
    · cases h
    · rename_i off hoff
      simp only [Option.some.injEq, Prod.mk.injEq] at h
      obtain ⟨rfl, rfl⟩ := h
      obtain ⟨j, h1, h2, h3⟩ := lowestSetBit_spec _ _ _ _ hoff
      have hj : off = j := by omega
      subst hj
      obtain ⟨m, hm⟩ : ∃ m, 256 - off = m + 1 := ⟨255 - off, by omega⟩
      rw [hm]
      simp only [runLength, h3, if_true]
      exact runLength_ge _ _ _

theorem getShift_inv (hI : TreeInv I) (v : SV) (hv : I v) : I (getShift v).1 := by
  rcases getShift_fst v with h | h
  · rw [h]; exact hv
  · cases v with
    | node k a ks s => exact hI.kids hv _ h

theorem insertSubWords_total : ∀ fuel t, ∃ t', insertSubWords fuel t = .ok t' := by
  intro fuel t
  induction fuel, t using fuelRec with
  | zero v => exact ⟨v, rfl⟩
  | succ fuel k a ks s ih =>
    obtain ⟨ks', hks'⟩ := mapE_total (insertSubWords fuel) ks (fun x _ => ih x)
    simp only [insertSubWords, hks']
    split
    · split
      · rename_i value offset length hpick
        split
        · exact ⟨_, rfl⟩
        · obtain ⟨v2, hv2⟩ := ih (getShift value).1
          simp only [hv2]
          split
          · exact ⟨_, rfl⟩
          · exact ⟨_, rfl⟩
      · exact ⟨_, rfl⟩
    · exact ⟨_, rfl⟩

theorem insertSubWords_inv (hI : TreeInv I)
    (hs : ∀ o l, 1 ≤ l → o + l ≤ 256 → Makes I .subWord [o, l]) :
    ∀ fuel t t', I t → insertSubWords fuel t = .ok t' → I t' := by
  intro fuel t
  induction fuel, t using fuelRec with
  | zero v => intro t' ht h; cases h; exact ht
  | succ fuel k a ks s ih =>
    intro t' ht h
    have hgen := fun t' => hI.mapE (t' := t') ht (f := insertSubWords fuel) (fun x y => ih x y)
    simp only [insertSubWords] at h
    split at h
    · rename_i left right
      have hl : I left := hI.kids ht left (by simp)
      have hr : I right := hI.kids ht right (by simp)
      split at h
      · rename_i value offset length hpick
        have hval : I value ∧ 1 ≤ length := by
          split at hpick
          · rename_i o l hreg
            cases hpick
            exact ⟨hr, getRegion_pos _ _ _ hreg⟩
          · split at hpick
            · rename_i o l hreg
              cases hpick
              exact ⟨hl, getRegion_pos _ _ _ hreg⟩
            · cases hpick
        split at h
        · exact hgen t' h
        · split at h
          · cases h
          · rename_i v2 hv2
            have hv2' : I v2 := ih _ _ (getShift_inv hI value hval.1) hv2
            split at h
            · exact hgen t' h
            · rename_i hguard
              cases h
              simp only [Bool.or_eq_true, decide_eq_true_eq, not_or] at hguard
              refine hs _ _ hval.2 (by omega) _ (List.forall_mem_singleton.2 ?_)
              split
              · split
                · exact hI.kids hv2' _ (by simp)
                · exact hv2'
              · exact hv2'
      · exact hgen t' h
    · exact hgen t' h

/-! ### pass 5: `insertMulShifts` -/

theorem insertMulShifts_inv (hI : TreeInv I) (hsh : ∀ a, Makes I .shifted a) :
    ∀ fuel t, I t → I (insertMulShifts fuel t) := by
  intro fuel t
  induction fuel, t using fuelRec with
  | zero v => exact id
  | succ fuel k a ks s ih =>
    intro ht
    have hgen : I (rebuild k a (ks.map (insertMulShifts fuel))) := hI.map ht ih
    simp only [insertMulShifts]
    split
    · rename_i left right
      have hl : I left := hI.kids ht left (by simp)
      have hr : I right := hI.kids ht right (by simp)
      split
      · rename_i c value hpick
        have hval : I value := by
          split at hpick
          · cases hpick; exact ih _ hr
          · split at hpick
            · cases hpick; exact ih _ hl
            · cases hpick
        split
        · split
          · split
            · exact hgen
            · exact hsh _ _ (List.forall_mem_singleton.2 hval)
          · exact hsh _ _ (List.forall_mem_singleton.2 hval)
        · exact hgen
      · exact hgen
    · exact hgen

/-! ### pass 6: `liftPacked` -/

/-- the span extraction of `liftPacked` -/
def spanOf (e : SV) : Except LFault (Nat × Nat × SV) :=
  match e with
  | .node .subWord [off, sz] _ _ => .ok (off, sz, e)
  | .node .shifted [off] [inner] _ =>
    (match inner with
     | .node .subWord [_, sz] _ _ => .ok (off, sz, inner)
     | _ => .error (.panic "packed_encoding.rs Shift of non-sub-word"))
  | _ => .error (.panic "packed_encoding.rs Element was of impossible type")

theorem spanOf_inv {I : SV → Prop} (hI : TreeInv I) (e : SV) (s : Nat × Nat × SV) (he : I e)
    (hs : spanOf e = .ok s) : I s.2.2 := by
  unfold spanOf at hs
  split at hs
  · cases hs; exact he
  · split at hs
    · cases hs; exact hI.kids he _ (by simp)
    · cases hs
  · cases hs

theorem liftPacked_inv (hI : TreeInv I) (hpk : ∀ a, Makes I .packed a) :
    ∀ fuel t t', I t → liftPacked fuel t = .ok t' → I t' := by
  intro fuel t
  induction fuel, t using fuelRec with
  | zero v => intro t' ht h; cases h; exact ht
  | succ fuel k a ks s ih =>
    intro t' ht h
    have hgen := fun t' => hI.mapE (t' := t') ht (f := liftPacked fuel) (fun x y => ih x y)
    simp only [liftPacked] at h
    split at h
    · rename_i key value
      have hkey : I key := hI.kids ht key (by simp)
      have hval : I value := hI.kids ht value (by simp)
      split at h
      · exact hgen t' h
      · change (match mapE spanOf (unpickOrs (nodeCount value) value) with
          | .error e => _ | .ok spans0 => _) = Except.ok t' at h
        split at h
        · cases h
        · rename_i spans0 hsp
          split at h
          · cases h
          · split at h
            · cases h
              refine hI.head ht (forall_mem_two.2 ⟨hkey, hpk _ _ fun x hx => ?_⟩)
              simp only [List.mem_map, List.mem_filter] at hx
              obtain ⟨sp, ⟨hsp1, _⟩, rfl⟩ := hx
              obtain ⟨e, he, hes⟩ := mapE_mem _ _ _ hsp sp (sortSpans_mem _ _ hsp1)
              exact spanOf_inv hI e sp (unpickOrs_inv hI.kids _ value hval e he) hes
            · exact hgen t' h
    · exact hgen t' h

/-! ### pass 7: `liftDynArray` -/

theorem liftDynArray_inv (hI : TreeInv I) (hk : ∀ w, I (mkKnownNat w))
    (hd : Makes I .dynamicArrayIndex []) :
    ∀ fuel t, I t → I (liftDynArray fuel t) := by
  intro fuel t
  induction fuel, t using fuelRec with
  | zero v => exact id
  | succ fuel k a ks s ih =>
    intro ht
    have hgen : I (rebuild k a (ks.map (liftDynArray fuel))) := hI.map ht ih
    simp only [liftDynArray]
    split
    · rename_i left right
      have hl : I left := hI.kids ht left (by simp)
      have hr : I right := hI.kids ht right (by simp)
      split
      · exact hgen
      · rename_i data hdata
        have hdat : I data := by
          split at hdata
          · cases hdata; exact hI.kids hl _ (by simp)
          · split at hdata
            · cases hdata; exact hI.kids hr _ (by simp)
            · cases hdata
        split
        · exact hgen
        · rename_i d hd'
          have hdd : I d := by
            split at hd'
            · cases hd'; exact fold_inv hI hk _ (hI.kids hdat _ (by simp))
            · cases hd'
            · cases hd'; exact hdat
          exact hd _ (forall_mem_two.2 ⟨ih _ hdd, ih _ hr⟩)
    · exact hgen

/-! ### pass 8: `insertStorageSlots` -/

theorem insertStorageSlots_inv (hI : TreeInv I) (hss : Makes I .storageSlot []) :
    ∀ fuel t, I t → I (insertStorageSlots fuel t) := by
  intro fuel t
  induction fuel, t using fuelRec with
  | zero v => exact id
  | succ fuel k a ks s ih =>
    intro ht
    have hwrap : ∀ slot, I slot →
        I (if (slot.kind == Kind.storageSlot) = true then rebuild slot.kind slot.attrs slot.kids
          else rebuild .storageSlot [] [insertStorageSlots fuel slot]) := by
      intro slot hslot
      split
      · exact hI.rewrap hslot
      · exact hss _ (List.forall_mem_singleton.2 (ih _ hslot))
    have hkids := hI.kids ht
    simp only [insertStorageSlots]
    split
    -- the four recognised heads: a slot position first, an ordinary kid second
    iterate 4
      exact hI.head ht (forall_mem_two.2 ⟨hwrap _ (hkids _ (by simp)), ih _ (hkids _ (by simp))⟩)
    -- any other head
    exact hI.map ht ih

/-! ### pass 9: `insertMappingOffset` -/

theorem insertMappingOffset_inv (hI : TreeInv I) (hm : ∀ a, Makes I .mappingIndex a) :
    ∀ fuel t, I t → I (insertMappingOffset fuel t) := by
  intro fuel t
  induction fuel, t using fuelRec with
  | zero v => exact id
  | succ fuel k a ks s ih =>
    intro ht
    have hgen : I (rebuild k a (ks.map (insertMappingOffset fuel))) := hI.map ht ih
    simp only [insertMappingOffset]
    split
    · rename_i left right
      have hl : I left := hI.kids ht left (by simp)
      have hr : I right := hI.kids ht right (by simp)
      split
      · rename_i key slot off hpick
        have hks : I key ∧ I slot := by
          split at hpick
          · split at hpick
            · cases hpick; exact ⟨hI.kids hl _ (by simp), hI.kids hl _ (by simp)⟩
            · cases hpick
          · split at hpick
            · cases hpick; exact ⟨hI.kids hr _ (by simp), hI.kids hr _ (by simp)⟩
            · cases hpick
          · cases hpick
        exact hm _ _ (forall_mem_two.2 ⟨ih _ hks.2, ih _ hks.1⟩)
      · exact hgen
    · exact hgen

end passes

/-! ### the spans after passes 4 and 5 (C12), with which `liftPacked` succeeds (C01) -/

/-- after pass 4: every sub-word is `[o, s]` with `1 ≤ s`, `o + s ≤ 256`; no `shifted` yet -/
def bad4 : Kind → List Nat → Bool
  | .subWord, [o, s] => !(decide (1 ≤ s) && decide (o + s ≤ 256))
  | .subWord, _ => true
  | .shifted, _ => true
  | _, _ => false

/-- after pass 5: additionally every `shifted [off]` wraps a sub-word `[_, s]`, `off + s ≤ 256` -/
def bad5 : Kind → List Nat → List SV → Bool
  | .subWord, [o, s], _ => !(decide (1 ≤ s) && decide (o + s ≤ 256))
  | .subWord, _, _ => true
  | .shifted, [off], [.node .subWord [_, s] _ _] => !(decide (1 ≤ s) && decide (off + s ≤ 256))
  | .shifted, _, _ => true
  | _, _, _ => false

def Good5 (t : SV) : Prop := anyNode bad5 t = false

theorem Good5_node {k a ks s} :
    Good5 (.node k a ks s) ↔ bad5 k a ks = false ∧ ∀ x ∈ ks, Good5 x := anyNode_node

theorem Good5_rebuild {k a ks} :
    Good5 (rebuild k a ks) ↔ bad5 k a ks = false ∧ ∀ x ∈ ks, Good5 x := Good5_node

theorem bad5_of_bad4 (k : Kind) (a : List Nat) (ks : List SV) (h : bad4 k a = false) :
    bad5 k a ks = false := by
  unfold bad4 at h
  unfold bad5
  split at h <;> simp_all

theorem bad5_subWord {a : List Nat} {ks : List SV} (h : bad5 .subWord a ks = false) :
    ∃ o s, a = [o, s] ∧ 1 ≤ s ∧ o + s ≤ 256 := by
  unfold bad5 at h
  split at h <;> simp_all
  exact ⟨_, _, ⟨rfl, rfl⟩, h⟩

theorem bad5_shifted {a : List Nat} {ks : List SV} (h : bad5 .shifted a ks = false) :
    ∃ off o s ks' n, a = [off] ∧ ks = [.node .subWord [o, s] ks' n] ∧ 1 ≤ s ∧ off + s ≤ 256 := by
  unfold bad5 at h
  split at h <;> simp_all
  exact ⟨_, _, ⟨rfl, rfl⟩, h⟩

theorem insertMulShifts_kind (fuel : Nat) (t : SV) (ht : t.kind = .subWord) :
    (insertMulShifts fuel t).kind = .subWord ∧ (insertMulShifts fuel t).attrs = t.attrs := by
  cases fuel with
  | zero => simp [insertMulShifts, ht]
  | succ fuel =>
    cases t with
    | node k a ks s =>
      simp only [SV.kind] at ht
      subst ht
      simp [insertMulShifts, rebuild, SV.kind, SV.attrs]

theorem insertMulShifts_Good5 :
    ∀ fuel t, NoP bad4 t → Good5 (insertMulShifts fuel t) := by
  intro fuel t
  induction fuel, t using fuelRec with
  | zero v =>
    intro ht
    refine anyNode_mono (fun k a ks h => ?_) v ht
    cases h4 : bad4 k a with
    | true => rfl
    | false => rw [bad5_of_bad4 k a ks h4] at h; cases h
  | succ fuel k a ks s ih =>
    intro ht
    rw [NoP_node] at ht
    have hgen : Good5 (rebuild k a (ks.map (insertMulShifts fuel))) := by
      rw [Good5_rebuild, List.forall_mem_map]
      exact ⟨bad5_of_bad4 _ _ _ ht.1, fun y hy => ih y (ht.2 y hy)⟩
    simp only [insertMulShifts]
    split
    · rename_i left right
      have hl : NoP bad4 left := ht.2 left (by simp)
      have hr : NoP bad4 right := ht.2 right (by simp)
      split
      · rename_i c value hpick
        have hval : Good5 value ∧ value.kind = .subWord := by
          split at hpick
          · rename_i c' hc hk
            cases hpick
            refine ⟨ih _ hr, (insertMulShifts_kind fuel right ?_).1⟩
            rcases fold_kind right with h | h
            · rw [← h]; simpa using hk
            · rw [h] at hk; simp at hk
          · split at hpick
            · rename_i c' hk hc
              cases hpick
              refine ⟨ih _ hl, (insertMulShifts_kind fuel left ?_).1⟩
              rcases fold_kind left with h | h
              · rw [← h]; simpa using hk
              · rw [h] at hk; simp at hk
            · cases hpick
        have hshape : ∃ o sz ks' n, value = .node .subWord [o, sz] ks' n ∧ 1 ≤ sz := by
          obtain ⟨hg, hk⟩ := hval
          cases value with
          | node k' a' ks' n =>
            simp only [SV.kind] at hk
            subst hk
            rw [Good5_node] at hg
            obtain ⟨o, sz, rfl, h1, _⟩ := bad5_subWord hg.1
            exact ⟨o, sz, ks', n, rfl, h1⟩
        split
        · rename_i off hoff
          split
          · rename_i o sz ks' n
            split
            · exact hgen
            · rename_i hguard
              -- the pass wraps a sub-word only if `off + sz ≤ 256`: this guard is the bound of C12
              have hfit : off + sz ≤ 256 := Nat.le_of_not_gt hguard
              rw [Good5_rebuild, List.forall_mem_singleton]
              refine ⟨?_, hval.1⟩
              obtain ⟨o', sz', ks'', n', heq, h1⟩ := hshape
              cases heq
              simp only [bad5]
              simp
              exact ⟨h1, hfit⟩
          · rename_i hno
            obtain ⟨o', sz', ks'', n', heq, h1⟩ := hshape
            exact absurd heq (hno _ _ _ _)
        · exact hgen
      · exact hgen
    · exact hgen

theorem spanOf_Good5 (e : SV) (hg : Good5 e)
    (hk : (e.kind == .shifted || e.kind == .subWord) = true) :
    ∃ s, spanOf e = .ok s ∧ s.1 + s.2.1 ≤ 256 := by
  cases e with
  | node k a ks n =>
    rw [Good5_node] at hg
    simp only [SV.kind, Bool.or_eq_true, beq_iff_eq] at hk
    rcases hk with rfl | rfl
    · obtain ⟨off, o, s, ks', n', rfl, rfl, h1, h2⟩ := bad5_shifted hg.1
      exact ⟨_, rfl, h2⟩
    · obtain ⟨o, s, rfl, h1, h2⟩ := bad5_subWord hg.1
      exact ⟨_, rfl, h2⟩

theorem chk_no_overflow (spans : List (Nat × Nat × SV)) (hs : ∀ s ∈ spans, s.1 + s.2.1 ≤ 256) :
    ∀ (b : Bool) (n : Nat), (spans.foldl (fun (acc : Bool × Nat × Bool) (s : Nat × Nat × SV) =>
      (acc.1 && acc.2.1 ≤ s.1, s.1 + s.2.1, acc.2.2 || (s.1 + s.2.1 ≥ usizeMax))) (b, n, false)).2.2
      = false := by
  induction spans with
  | nil => intro b n; rfl
  | cons s r ih =>
    intro b n
    simp only [List.foldl_cons]
    have h1 : s.1 + s.2.1 ≤ 256 := hs s (by simp)
    have h2 : (false || decide (s.1 + s.2.1 ≥ usizeMax)) = false := by
      simp [usizeMax]; omega
    rw [h2]
    exact ih (fun x hx => hs x (by simp [hx])) _ _

theorem liftPacked_total : ∀ fuel t, Good5 t → ∃ t', liftPacked fuel t = .ok t' := by
  intro fuel t
  induction fuel, t using fuelRec with
  | zero v => intro _; exact ⟨v, rfl⟩
  | succ fuel k a ks s ih =>
    intro ht
    rw [Good5_node] at ht
    obtain ⟨ks', hks'⟩ := mapE_total (liftPacked fuel) ks (fun x hx => ih x (ht.2 x hx))
    simp only [liftPacked, hks']
    split
    · rename_i key value
      have hval : Good5 value := ht.2 value (by simp)
      split
      · exact ⟨_, rfl⟩
      · rename_i hall
        simp only [Bool.not_eq_true, Bool.not_eq_false', List.all_eq_true] at hall
        have hpt : ∀ e ∈ unpickOrs (nodeCount value) value,
            ∃ s, spanOf e = .ok s ∧ s.1 + s.2.1 ≤ 256 := fun e he =>
          spanOf_Good5 e (unpickOrs_inv (fun h => (Good5_node.1 h).2) _ value hval e he) (hall e he)
        obtain ⟨spans0, hsp⟩ := mapE_total spanOf _ (fun e he => ⟨_, (hpt e he).choose_spec.1⟩)
        have hb : ∀ s ∈ sortSpans spans0, s.1 + s.2.1 ≤ 256 := by
          intro s hs
          obtain ⟨e, he, hes⟩ := mapE_mem _ _ _ hsp s (sortSpans_mem _ _ hs)
          obtain ⟨s', hs', hle⟩ := hpt e he
          rw [hes] at hs'
          cases hs'
          exact hle
        change ∃ t', (match mapE spanOf (unpickOrs (nodeCount value) value) with
          | .error e => _ | .ok spans0 => _) = Except.ok t'
        rw [hsp]
        dsimp only
        split
        · rename_i hc
          rw [chk_no_overflow _ hb] at hc
          cases hc
        · split <;> exact ⟨_, rfl⟩
    · exact ⟨_, rfl⟩

theorem slotHashes_NoP {p : Kind → List Nat → Bool} (h : HashCtx)
    (hk : ∀ a, p .knownData a = false) (hs : p .sha3 [] = false) :
    ∀ t, NoP p t → NoP p (transform (slotHashesT h) t) :=
  transform_inv (treeInv_NoP p) _ fun _ => slotHashesT_inv (NoP_mkKnownNat hk) (makes_NoP hs) h

theorem slotHashesList_NoP {p : Kind → List Nat → Bool} (h : HashCtx)
    (hk : ∀ a, p .knownData a = false) (hs : p .sha3 [] = false) :
    ∀ l : List SV, (∀ x ∈ l, NoP p x) → ∀ x ∈ transformList (slotHashesT h) l, NoP p x :=
  transformList_inv (treeInv_NoP p) _ fun _ => slotHashesT_inv (NoP_mkKnownNat hk) (makes_NoP hs) h

/-- the kinds that make `insertStorageSlots` create a slot, and the slot kind itself -/
def slotSource (k : Kind) (_ : List Nat) : Bool :=
  isStorageKind k || k == .mappingIndex || k == .dynamicArrayIndex || k == .storageSlot

theorem insertStorageSlots_none :
    ∀ fuel t, NoP slotSource t → NoP slotSource (insertStorageSlots fuel t) := by
  intro fuel t
  induction fuel, t using fuelRec with
  | zero v => exact id
  | succ fuel k a ks s ih =>
    intro ht
    simp only [insertStorageSlots]
    split
    -- the four recognised heads are slot sources
    iterate 4 exact absurd (NoP_node.1 ht).1 (by simp [slotSource, isStorageKind])
    exact (treeInv_NoP _).map ht ih

/-! ### the pipeline -/

mutual
theorem anyNode_or {p q : Kind → List Nat → List SV → Bool} :
    ∀ t, anyNode p t = false → anyNode q t = false →
      anyNode (fun k a ks => p k a ks || q k a ks) t = false
  | .node k a ks s, hp, hq => by
    simp only [anyNode, Bool.or_eq_false_iff] at hp hq ⊢
    exact ⟨⟨hp.1, hq.1⟩, anyNodeList_or ks hp.2 hq.2⟩
theorem anyNodeList_or {p q : Kind → List Nat → List SV → Bool} :
    ∀ l, anyNodeList p l = false → anyNodeList q l = false →
      anyNodeList (fun k a ks => p k a ks || q k a ks) l = false
  | [], _, _ => by simp [anyNodeList]
  | x :: xs, hp, hq => by
    simp only [anyNodeList, Bool.or_eq_false_iff] at hp hq ⊢
    exact ⟨anyNode_or x hp.1 hq.1, anyNodeList_or xs hp.2 hq.2⟩
end

/-- The fuel `liftAll` runs a pass with on `t` (`liftDynArray` gets twice as much). -/
def cnt (t : SV) : Nat := nodeCount t + 1

/-- passes 1–3 -/
def stage3 (h : HashCtx) (v : SV) : SV :=
  let v1 := transform (slotHashesT h) v
  let v2 := proxySlots h (cnt v1) v1
  guarded (fun t => insertMappingAccesses (cnt t) t) (cnt v2) v2

/-- pass 5 -/
def stage5 (v4 : SV) : SV := insertMulShifts (cnt v4) v4

/-- pass 7 -/
def stage7 (v6 : SV) : SV := guarded (fun t => liftDynArray (2 * cnt t) t) (cnt v6) v6

/-- passes 7–8 -/
def stage8 (v6 : SV) : SV := insertStorageSlots (cnt (stage7 v6)) (stage7 v6)

/-- passes 7–9 -/
def stage9 (v6 : SV) : SV := insertMappingOffset (cnt (stage8 v6)) (stage8 v6)

theorem liftAll_eq (h : HashCtx) (v : SV) :
    liftAll h v =
      match insertSubWords (cnt (stage3 h v)) (stage3 h v) with
      | .error e => .error e
      | .ok v4 =>
        match liftPacked (cnt (stage5 v4)) (stage5 v4) with
        | .error e => .error e
        | .ok v6 => .ok (stage9 v6) := rfl

/-- the stages a successful run of `liftAll` goes through -/
theorem liftAll_ok {h : HashCtx} {v v' : SV} (hv : liftAll h v = .ok v') :
    ∃ v4 v6, insertSubWords (cnt (stage3 h v)) (stage3 h v) = .ok v4 ∧
      liftPacked (cnt (stage5 v4)) (stage5 v4) = .ok v6 ∧ v' = stage9 v6 := by
  rw [liftAll_eq] at hv
  split at hv
  · cases hv
  · rename_i v4 hv4
    split at hv
    · cases hv
    · rename_i v6 hv6
      cases hv
      exact ⟨v4, v6, hv4, hv6, rfl⟩

section stages
variable {I : SV → Prop}

theorem stage3_pre (hI : TreeInv I) (hk : ∀ w, I (mkKnownNat w)) (hs : Makes I .sha3 [])
    (h : HashCtx) (v : SV) (hv : I v) :
    I (proxySlots h (cnt (transform (slotHashesT h) v)) (transform (slotHashesT h) v)) :=
  proxySlots_inv hI hk h _ _ (transform_inv hI _ (fun _ => slotHashesT_inv hk hs h) v hv)

theorem stage3_inv (hI : TreeInv I) (hk : ∀ w, I (mkKnownNat w)) (hs : Makes I .sha3 [])
    (hm : Makes I .mappingIndex [0]) (h : HashCtx) (v : SV) (hv : I v) : I (stage3 h v) :=
  guarded_inv hI _ (fun t ht => insertMappingAccesses_inv hI hm _ t ht) _ _
    (stage3_pre hI hk hs h v hv)

theorem stage9_inv (hI : TreeInv I) (hk : ∀ w, I (mkKnownNat w))
    (hd : Makes I .dynamicArrayIndex []) (hss : Makes I .storageSlot [])
    (hm : ∀ a, Makes I .mappingIndex a) (v : SV) (hv : I v) : I (stage9 v) :=
  insertMappingOffset_inv hI hm _ _ (insertStorageSlots_inv hI hss _ _
    (guarded_inv hI _ (fun t ht => liftDynArray_inv hI hk hd _ t ht) _ _ hv))

/-- `liftAll` keeps a predicate that holds of any head over kids of which it holds -/
theorem liftAll_inv (hI : TreeInv I) (hmk : ∀ k a, Makes I k a) (h : HashCtx) (v v' : SV) (hv : I v)
    (hl : liftAll h v = .ok v') : I v' := by
  have hk : ∀ w, I (mkKnownNat w) := fun w => hmk _ _ _ (fun _ hx => nomatch hx)
  obtain ⟨v4, v6, hv4, hv6, rfl⟩ := liftAll_ok hl
  have h3 := stage3_inv hI hk (hmk _ _) (hmk _ _) h v hv
  have h4 := insertSubWords_inv hI (fun _ _ _ _ => hmk _ _) _ _ _ h3 hv4
  have h5 : I (stage5 v4) := insertMulShifts_inv hI (fun _ => hmk _ _) _ _ h4
  have h6 := liftPacked_inv hI (fun _ => hmk _ _) _ _ _ h5 hv6
  exact stage9_inv hI hk (hmk _ _) (hmk _ _) (fun _ => hmk _ _) v6 h6

end stages

theorem Raw_bad4 (v : SV) (hraw : Raw v) : NoP bad4 v := by
  refine anyNode_mono (fun k a _ hb => ?_) v hraw
  unfold bad4 at hb
  split at hb <;> first | rfl | cases hb

/-- the first four passes on a raw value: they succeed and establish the sub-word invariant -/
theorem stage4_ok (h : HashCtx) (v : SV) (hraw : Raw v) :
    ∃ v4, insertSubWords (cnt (stage3 h v)) (stage3 h v) = .ok v4 ∧ NoP bad4 v4 := by
  have h3 : NoP bad4 (stage3 h v) :=
    stage3_inv (treeInv_NoP _) (NoP_mkKnownNat fun _ => rfl) (makes_NoP rfl) (makes_NoP rfl) h v
      (Raw_bad4 v hraw)
  obtain ⟨v4, hv4⟩ := insertSubWords_total (cnt (stage3 h v)) (stage3 h v)
  refine ⟨v4, hv4, insertSubWords_inv (treeInv_NoP _) (fun o l h1 h2 => makes_NoP ?_) _ _ _ h3 hv4⟩
  simp [bad4, h1, h2]

/-- the span predicate of `spansInWord` -/
def badSpan : Kind → List Nat → Bool := fun k a =>
  match k, a with
  | .subWord, [off, sz] => !(off + sz ≤ 256)
  | .subWord, _ => true
  | .shifted, [off] => !(off < 256)
  | .shifted, _ => true
  | _, _ => false

theorem Good5_badSpan (t : SV) (ht : Good5 t) : NoP badSpan t := by
  refine anyNode_mono (fun k a ks hb => ?_) t ht
  cases h5 : bad5 k a ks with
  | true => rfl
  | false =>
    exfalso
    unfold bad5 at h5
    unfold badSpan at hb
    split at h5 <;> simp_all <;> omega

/-- everything a successful run of `liftAll` on a raw value goes through -/
theorem liftAll_ok_inv (h : HashCtx) (v v' : SV) (hraw : Raw v) (hv : liftAll h v = .ok v') :
    ∃ v4 v6, insertSubWords (cnt (stage3 h v)) (stage3 h v) = .ok v4 ∧ NoP bad4 v4 ∧
      liftPacked (cnt (stage5 v4)) (stage5 v4) = .ok v6 ∧ v' = stage9 v6 := by
  obtain ⟨v4, v6, hv4, hv6, rfl⟩ := liftAll_ok hv
  obtain ⟨v4', hv4', h4⟩ := stage4_ok h v hraw
  cases hv4.symm.trans hv4'
  exact ⟨v4, v6, hv4, h4, hv6, rfl⟩

theorem Raw_free_slotSource (v : SV) (hraw : Raw v) (hfree : StorageFree v) : NoP slotSource v := by
  refine anyNode_mono (fun k a _ hb => ?_) v (anyNode_or v hraw hfree)
  simp only [slotSource, Bool.or_eq_true] at hb
  simp only [Bool.or_eq_true]
  rcases hb with ((hb | hb) | hb) | hb
  · exact Or.inr hb
  · exact Or.inl (by simp only [beq_iff_eq] at hb; subst hb; rfl)
  · exact Or.inl (by simp only [beq_iff_eq] at hb; subst hb; rfl)
  · exact Or.inl (by simp only [beq_iff_eq] at hb; subst hb; rfl)

/-! ### registration and the layout loop -/

/-- no `storageSlot` node -/
abbrev NoSS (t : SV) : Prop := NoP (fun k _ => k == .storageSlot) t

/-- no registered node is a storage slot -/
def RegInv (st : RegState) : Prop := ∀ t ∈ st.values, t.kind ≠ .storageSlot

theorem foldl_RegInv (g : RegState × List TV → SV → RegState × List TV)
    (hg : ∀ acc c, RegInv acc.1 → NoSS c → RegInv (g acc c).1) :
    ∀ (ks : List SV) (acc : RegState × List TV), RegInv acc.1 → (∀ c ∈ ks, NoSS c) →
      RegInv (ks.foldl g acc).1
  | [], acc, hacc, _ => hacc
  | c :: ks, acc, hacc, hks => by
    simp only [List.foldl_cons]
    exact foldl_RegInv g hg ks _ (hg acc c hacc (hks c (by simp)))
      (fun x hx => hks x (by simp [hx]))

theorem register_RegInv : ∀ fuel st v, RegInv st → NoSS v → RegInv (register fuel st v).1 := by
  intro fuel
  induction fuel with
  | zero => intro st v hst _; simpa [register] using hst
  | succ fuel ih =>
    intro st v hst hv
    simp only [register]
    split
    · exact hst
    · cases v with
      | node k a ks s =>
        have hv := NoP_node.1 hv
        dsimp only
        have hfold := foldl_RegInv (fun (acc : RegState × List TV) c =>
            ((register fuel acc.1 c).1, acc.2 ++ [(register fuel acc.1 c).2]))
          (fun acc c hacc hc => ih acc.1 c hacc hc) ks (st, []) hst hv.2
        intro t ht
        simp only [List.mem_append, List.mem_singleton] at ht
        rcases ht with ht | rfl
        · exact hfold t ht
        · simp only [TV.kind]
          intro hk
          have := hv.1
          simp [hk] at this

theorem registerAll_RegInv (vs : List SV) (hvs : ∀ v ∈ vs, NoSS v) : RegInv (registerAll vs) := by
  unfold registerAll
  have : ∀ (l : List SV) (st : RegState), RegInv st → (∀ v ∈ l, NoSS v) →
      RegInv (l.foldl (fun st v => (register (nodeCount v + 1) st v).1) st) := by
    intro l
    induction l with
    | nil => intro st hst _; exact hst
    | cons v l ih =>
      intro st hst hl
      simp only [List.foldl_cons]
      exact ih _ (register_RegInv _ st v hst (hl v (by simp))) (fun x hx => hl x (by simp [hx]))
  exact this vs {} (by intro t ht; cases ht) hvs

theorem isConstSlot_none (t : TV) (ht : t.kind ≠ .storageSlot) : isConstSlot t = none := by
  unfold isConstSlot
  split
  · simp [TV.kind] at ht
  · rfl

theorem layoutEntries_nil (typeOf : Nat → Except RErr TE) (fuel : Nat) :
    ∀ vs : List TV, (∀ t ∈ vs, t.kind ≠ .storageSlot) → layoutEntries typeOf fuel vs = .ok []
  | [], _ => rfl
  | t :: vs, h => by
    simp only [layoutEntries, isConstSlot_none t (h t (by simp))]
    exact layoutEntries_nil typeOf fuel vs (fun x hx => h x (by simp [hx]))

theorem uniqueSV_mem (vs : List SV) : ∀ x ∈ uniqueSV vs, x ∈ vs := by
  unfold uniqueSV
  have : ∀ (l acc : List SV) (x : SV),
      x ∈ l.foldl (fun acc v => if acc.any (fun x => x.beq v) then acc else acc ++ [v]) acc →
      x ∈ acc ∨ x ∈ l := by
    intro l
    induction l with
    | nil => intro acc x hx; exact Or.inl hx
    | cons v l ih =>
      intro acc x hx
      simp only [List.foldl_cons] at hx
      rcases ih _ x hx with h | h
      · split at h
        · exact Or.inl h
        · simp only [List.mem_append, List.mem_singleton] at h
          rcases h with h | h
          · exact Or.inl h
          · exact Or.inr (by simp [h])
      · exact Or.inr (by simp [h])
  intro x hx
  rcases this vs [] x hx with h | h
  · cases h
  · exact h

theorem liftValues_mem (h : HashCtx) :
    ∀ (l r : List SV), liftValues h l = .ok r → ∀ y ∈ r, ∃ v ∈ l, liftAll h v = .ok y
  | [], r, hr => by
    simp only [liftValues] at hr
    cases hr
    simp
  | v :: l, r, hr => by
    simp only [liftValues] at hr
    split at hr
    · cases hr
    · rename_i v' hv'
      split at hr
      · cases hr
      · rename_i r' hr'
        cases hr
        intro y hy
        simp only [List.mem_cons] at hy
        rcases hy with rfl | hy
        · exact ⟨v, by simp, hv'⟩
        · obtain ⟨x, hx, hxy⟩ := liftValues_mem h l r' hr' y hy
          exact ⟨x, by simp [hx], hxy⟩

/-! ### C01, C12 and C05 for the lifting pipeline -/

/-- C01: on raw values the lifting passes never reach a panic site. -/
theorem lift_total (h : HashCtx) (v : SV) (hraw : Raw v) : ∃ v', liftAll h v = .ok v' := by
  obtain ⟨v4, hv4, h4⟩ := stage4_ok h v hraw
  obtain ⟨v6, hv6⟩ := liftPacked_total (cnt (stage5 v4)) (stage5 v4)
    (insertMulShifts_Good5 _ _ h4)
  exact ⟨stage9 v6, by rw [liftAll_eq, hv4]; dsimp only; rw [hv6]⟩

/-- C12: every sub-word / shifted span of a lifted value lies inside the 256-bit word. -/
theorem lift_spans (h : HashCtx) (v v' : SV) (hraw : Raw v) :
    liftAll h v = .ok v' → spansInWord v' = true := by
  intro hv
  obtain ⟨v4, v6, hv4, h4, hv6, rfl⟩ := liftAll_ok_inv h v v' hraw hv
  have h5 : NoP badSpan (stage5 v4) := Good5_badSpan _ (insertMulShifts_Good5 _ _ h4)
  have h6 : NoP badSpan v6 := liftPacked_inv (treeInv_NoP _) (fun _ => makes_NoP rfl) _ _ _ h5 hv6
  have h9 : NoP badSpan (stage9 v6) := stage9_inv (treeInv_NoP _) (NoP_mkKnownNat fun _ => rfl)
    (makes_NoP rfl) (makes_NoP rfl) (fun _ => makes_NoP rfl) v6 h6
  exact congrArg Bool.not h9

/-- C05: a value without storage accesses gets no storage slot. -/
theorem lift_storage_free (h : HashCtx) (v v' : SV) (hraw : Raw v) (hfree : StorageFree v) :
    liftAll h v = .ok v' → anyNode (fun k _ _ => k == .storageSlot) v' = false := by
  intro hv
  obtain ⟨v4, v6, hv4, _, hv6, rfl⟩ := liftAll_ok_inv h v v' hraw hv
  have hst : ∀ k a, isStorageKind k = true → slotSource k a = true := by
    intro k a hk; simp [slotSource, hk]
  have h0 : NoP slotSource v := Raw_free_slotSource v hraw hfree
  have h3 : NoP slotSource (stage3 h v) :=
    guarded_NoP_free _ hst _ _
      (stage3_pre (treeInv_NoP _) (NoP_mkKnownNat fun _ => rfl) (makes_NoP rfl) h v h0)
  have hS := treeInv_NoP slotSource
  have h4 : NoP slotSource v4 := insertSubWords_inv hS (fun _ _ _ _ => makes_NoP rfl) _ _ _ h3 hv4
  have h5 : NoP slotSource (stage5 v4) := insertMulShifts_inv hS (fun _ => makes_NoP rfl) _ _ h4
  have h6 : NoP slotSource v6 := liftPacked_inv hS (fun _ => makes_NoP rfl) _ _ _ h5 hv6
  have h7 : NoP slotSource (stage7 v6) := guarded_NoP_free _ hst _ _ h6
  have h8 : NoP slotSource (stage8 v6) := insertStorageSlots_none _ _ h7
  have h8' : NoP (fun k _ => k == .storageSlot) (stage8 v6) :=
    NoP_mono (fun k a hk => by simp only [beq_iff_eq] at hk; subst hk; rfl) h8
  exact insertMappingOffset_inv (treeInv_NoP _) (fun _ => makes_NoP rfl) _ _ h8'

/-- C05: storage-free input gives the empty layout. -/
theorem storage_free_empty (h : HashCtx) (o : Unify.Orders) (fuel : Nat) (vs : List SV) (l)
    (hraw : ∀ v ∈ vs, Raw v) (hfree : ∀ v ∈ vs, StorageFree v) :
    (analyse h o fuel vs).outcome = .layout l → l = [] := by
  intro hl
  unfold analyse at hl
  split at hl
  · cases hl
  · rename_i lifted hlifted
    have hno : ∀ y ∈ lifted, NoSS y := by
      intro y hy
      obtain ⟨v, hv, hvy⟩ := liftValues_mem h _ _ hlifted y hy
      have hv' := uniqueSV_mem vs v hv
      exact lift_storage_free h v y (hraw v hv') (hfree v hv') hvy
    have hinv := registerAll_RegInv lifted hno
    dsimp only at hl
    split at hl
    · cases hl
    · rw [layoutEntries_nil _ _ _ hinv] at hl
      dsimp only at hl
      cases hl
      rfl

end SLE.LiftInv

#print axioms SLE.LiftInv.lift_total
#print axioms SLE.LiftInv.lift_spans
#print axioms SLE.LiftInv.lift_storage_free
#print axioms SLE.LiftInv.storage_free_empty
