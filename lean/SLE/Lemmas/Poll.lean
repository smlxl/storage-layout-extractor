/-
Lemmas about the watchdog polling discipline (`SLE/Model/Poll.lean`).
All statements hold for every watchdog function `wd`, loop length, schedule and interval.
Every loop `L` (`pollLoop`, the unit loops `unitLoop_…` of copy loops and phases, `copyLoop`,
`runIter`, `vmLoop`, `phases`, `pipeline`) is described by two facts: `L_silent` — what it does
while the watchdog answers `false` to the polls it issues — and `L_stop…` — what it does at the
first `true` answer (for `runIter` and `vmLoop`: `vmLoop_cons_stop` at a main-loop poll,
`…_to_copy` at a copy-loop poll); `first_true` turns these into the converse statements.
`…_transparent` are the instances of `L_silent` for a watchdog that never says stop.
Core Lean only.
-/
import SLE.Model.Poll

namespace SLE.Poll

/-! ## Counting polls -/

/-- Number of polls a full (never stopped) run of `n` iterations issues when the counter starts at
`c`: the number of `i < n` with `(c + i) % every = 0` (see `pollCnt_eq_filter_range`). -/
def pollCnt (every : Nat) : Nat → Nat → Nat
  | _, 0 => 0
  | c, n + 1 => (if c % every = 0 then 1 else 0) + pollCnt every (c + 1) n

/-- Ceiling division. -/
def cdiv (n e : Nat) : Nat := (n + e - 1) / e

theorem pollCnt_eq_filter_range' (every c n : Nat) :
    pollCnt every c n = ((List.range' c n).filter (fun i => i % every = 0)).length := by
  induction n generalizing c with
  | zero => rfl
  | succ n ih =>
    rw [pollCnt, List.range'_succ, List.filter_cons, ih (c + 1)]
    by_cases hc : c % every = 0
    · simp only [hc, if_true, decide_true, List.length_cons]; omega
    · simp only [hc, if_false, decide_false, Bool.false_eq_true, Nat.zero_add]

/-- `pollCnt every c n` is the number of `i < n` with `(c + i) % every = 0`. -/
theorem pollCnt_eq_filter_range (every c n : Nat) :
    pollCnt every c n = ((List.range n).filter (fun i => (c + i) % every = 0)).length := by
  rw [pollCnt_eq_filter_range', List.range'_eq_map_range, List.filter_map, List.length_map]
  rfl

private theorem cdiv_succ {every : Nat} (hev : 0 < every) (c : Nat) :
    cdiv (c + 1) every = cdiv c every + (if c % every = 0 then 1 else 0) := by
  unfold cdiv
  cases c with
  | zero =>
    rw [show 0 + 1 + every - 1 = every by omega, Nat.div_self hev, Nat.zero_add,
      Nat.div_eq_of_lt (by omega)]
    rfl
  | succ c =>
    -- `⌈(c+2)/e⌉ = (c+1)/e + 1` and `⌈(c+1)/e⌉ = c/e + 1`; `Nat.succ_div` compares the quotients
    rw [show c + 1 + 1 + every - 1 = c + 1 + every by omega,
      show c + 1 + every - 1 = c + every by omega,
      Nat.add_div_right _ hev, Nat.add_div_right _ hev, Nat.succ_div]
    simp only [Nat.dvd_iff_mod_eq_zero]
    omega

/-- Telescoping form: polls issued between counter `c` and counter `c + n`. -/
theorem pollCnt_add_cdiv {every : Nat} (hev : 0 < every) (c n : Nat) :
    pollCnt every c n + cdiv c every = cdiv (c + n) every := by
  induction n generalizing c with
  | zero => simp [pollCnt]
  | succ n ih =>
    have h1 := ih (c + 1)
    have h2 := cdiv_succ hev c
    rw [pollCnt, show c + (n + 1) = c + 1 + n by omega]
    omega

/-- Closed form: a counter-from-zero loop of `n` iterations polls `⌈n / every⌉` times. -/
theorem poll_count {every : Nat} (hev : 0 < every) (n : Nat) :
    pollCnt every 0 n = (n + every - 1) / every := by
  have h := pollCnt_add_cdiv hev 0 n
  have h0 : cdiv 0 every = 0 := Nat.div_eq_of_lt (by omega)
  rw [h0, Nat.zero_add] at h
  exact h

/-- Among the polls `p, …, p + n - 1` either all are answered `false`, or one of them is the
first to be answered `true`. -/
theorem first_true (wd : Nat → Bool) (p n : Nat) :
    (∀ j, p ≤ j → j < p + n → wd j = false) ∨
      ∃ k, p ≤ k ∧ k < p + n ∧ wd k = true ∧ ∀ j, p ≤ j → j < k → wd j = false := by
  induction n with
  | zero => exact .inl (fun j h1 h2 => absurd h2 (by omega))
  | succ n ih =>
    rcases ih with h | ⟨k, h1, h2, h3, h4⟩
    · cases hw : wd (p + n) with
      | true => exact .inr ⟨p + n, by omega, by omega, hw, h⟩
      | false =>
        refine .inl (fun j h1 h2 => ?_)
        by_cases hj : j = p + n
        · rw [hj]; exact hw
        · exact h j h1 (by omega)
    · exact .inr ⟨k, h1, by omega, h3, h4⟩

/-! ## 1. A single monitored loop -/

section Loop
variable {σ α : Type} (every : Nat) (wd : Nat → Bool) (body : σ → α → σ)

/-- An iteration whose poll (if it issues one) is answered `false`. -/
theorem pollLoop_cons (x : α) (xs : List α) (c p : Nat) (s : σ)
    (h : c % every = 0 → wd p = false) :
    pollLoop every wd body (x :: xs) c p s
      = pollLoop every wd body xs (c + 1) (p + if c % every = 0 then 1 else 0) (body s x) := by
  rw [pollLoop]
  by_cases hc : c % every = 0
  · rw [if_pos hc, if_pos hc, h hc]; rfl
  · rw [if_neg hc, if_neg hc]; rfl

/-- Transparency needs the watchdog to be silent only on the polls the loop issues. -/
theorem pollLoop_silent (xs : List α) (c p : Nat) (s : σ)
    (h : ∀ j, p ≤ j → j < p + pollCnt every c xs.length → wd j = false) :
    pollLoop every wd body xs c p s
      = .done (xs.foldl body s) (p + pollCnt every c xs.length) := by
  induction xs generalizing c p s with
  | nil => rfl
  | cons x xs ih =>
    simp only [List.length_cons, pollCnt] at h ⊢
    rw [pollLoop_cons every wd body x xs c p s
        (fun hc => h p (Nat.le_refl _) (by rw [if_pos hc]; omega)),
      ih _ _ _ (fun j h1 h2 => h j (by omega) (by omega)), List.foldl_cons, Nat.add_assoc]

/-- A never-stopping watchdog is transparent: the loop computes the plain fold and issues one
poll for every `i < xs.length` with `(c + i) % every = 0`. -/
theorem pollLoop_transparent (xs : List α) (c p : Nat) (s : σ) (h : ∀ k, wd k = false) :
    pollLoop every wd body xs c p s
      = .done (xs.foldl body s)
          (p + ((List.range xs.length).filter (fun i => (c + i) % every = 0)).length) := by
  rw [← pollCnt_eq_filter_range]
  exact pollLoop_silent every wd body xs c p s (fun j _ _ => h j)

/-- `pollLoop_transparent` with the closed form of the count, counter from zero. -/
theorem pollLoop_transparent_zero (hev : 0 < every) (xs : List α) (p : Nat) (s : σ)
    (h : ∀ k, wd k = false) :
    pollLoop every wd body xs 0 p s
      = .done (xs.foldl body s) (p + (xs.length + every - 1) / every) := by
  rw [← poll_count hev]
  exact pollLoop_silent every wd body xs 0 p s (fun j _ _ => h j)

/-- If poll number `k` is one of the polls of the loop (`p ≤ k < p + #polls of a full run`),
all earlier polls of the loop were answered `false` and poll `k` is answered `true`, the loop
returns `.stopped (k + 1)`: poll `k` is the last poll issued.
(`p ≤ k` is necessary: see `pollLoop_stop_now_needs_le`.) -/
theorem pollLoop_stop (xs : List α) (c p : Nat) (s : σ) (k : Nat) (hpk : p ≤ k)
    (hf : ∀ j, p ≤ j → j < k → wd j = false) (ht : wd k = true)
    (hk : k < p + pollCnt every c xs.length) :
    pollLoop every wd body xs c p s = .stopped (k + 1) := by
  induction xs generalizing c p s with
  | nil => exact absurd hk (by simp only [List.length_nil, pollCnt]; omega)
  | cons x xs ih =>
    simp only [List.length_cons, pollCnt] at hk
    by_cases hnow : c % every = 0 ∧ p = k
    · rw [pollLoop, if_pos hnow.1, hnow.2, if_pos ht]
    · have hlt : c % every = 0 → p < k := fun hc =>
        Nat.lt_of_le_of_ne hpk (fun e => hnow ⟨hc, e⟩)
      rw [pollLoop_cons every wd body x xs c p s (fun hc => hf p (Nat.le_refl _) (hlt hc))]
      refine ih _ _ _ ?_ (fun j h1 h2 => hf j (by omega) h2) (by omega)
      split
      · exact hlt ‹_›
      · exact hpk

/-- The loop either finishes or stops; if it stops at `q` then `q - 1` is one of its polls, it was
answered `true` and every earlier poll of the loop was answered `false`. -/
theorem pollLoop_stopped_inv (xs : List α) (c p : Nat) (s : σ) (q : Nat)
    (h : pollLoop every wd body xs c p s = .stopped q) :
    p < q ∧ q ≤ p + pollCnt every c xs.length ∧ wd (q - 1) = true
      ∧ ∀ j, p ≤ j → j < q - 1 → wd j = false := by
  rcases first_true wd p (pollCnt every c xs.length) with hall | ⟨k, h1, h2, h3, h4⟩
  · rw [pollLoop_silent every wd body xs c p s hall] at h
    cases h
  · rw [pollLoop_stop every wd body xs c p s k h1 h4 h3 h2] at h
    injection h with h
    subst h
    rw [Nat.add_sub_cancel]
    exact ⟨by omega, by omega, h3, h4⟩

/-! ### Which iterations poll -/

/-- `pollLoop` instrumented with the list of the counter values (= iteration indices when the
counter starts from zero) at which a poll was issued. -/
def pollLoopTr : List α → Nat → Nat → σ → LoopRes σ × List Nat
  | [], _, polls, s => (.done s polls, [])
  | x :: xs, counter, polls, s =>
    if counter % every = 0 then
      if wd polls then (.stopped (polls + 1), [counter])
      else
        let r := pollLoopTr xs (counter + 1) (polls + 1) (body s x)
        (r.1, counter :: r.2)
    else pollLoopTr xs (counter + 1) polls (body s x)

/-- The instrumentation does not change the result. -/
theorem pollLoopTr_fst (xs : List α) (c p : Nat) (s : σ) :
    (pollLoopTr every wd body xs c p s).1 = pollLoop every wd body xs c p s := by
  induction xs generalizing c p s with
  | nil => rfl
  | cons x xs ih =>
    rw [pollLoopTr, pollLoop]
    by_cases hc : c % every = 0
    · simp only [hc, if_true]
      cases hp : wd p with
      | true => rfl
      | false => exact ih _ _ _
    · simp only [hc, if_false, ih]

/-- The number of polls issued is the length of the trace. -/
theorem pollLoopTr_polls (xs : List α) (c p : Nat) (s : σ) :
    (match (pollLoopTr every wd body xs c p s).1 with
      | .done _ q => q | .stopped q => q)
      = p + (pollLoopTr every wd body xs c p s).2.length := by
  induction xs generalizing c p s with
  | nil => rfl
  | cons x xs ih =>
    rw [pollLoopTr]
    by_cases hc : c % every = 0
    · simp only [hc, if_true]
      cases hp : wd p with
      | true => rfl
      | false =>
        simp only [Bool.false_eq_true, if_false, List.length_cons]
        rw [ih]; omega
    · simp only [hc, if_false, ih]

/-- Whatever the watchdog answers, the polled iterations form an initial segment of the
iterations with `counter % every = 0`: no other iteration ever polls. -/
theorem pollLoopTr_prefix (xs : List α) (c p : Nat) (s : σ) :
    (pollLoopTr every wd body xs c p s).2
      <+: (List.range' c xs.length).filter (fun i => i % every = 0) := by
  induction xs generalizing c p s with
  | nil => exact List.nil_prefix
  | cons x xs ih =>
    rw [pollLoopTr, List.length_cons, List.range'_succ, List.filter_cons]
    by_cases hc : c % every = 0
    · simp only [hc, if_true, decide_true]
      cases hp : wd p with
      | true => exact List.cons_prefix_cons.2 ⟨rfl, List.nil_prefix⟩
      | false => exact List.cons_prefix_cons.2 ⟨rfl, ih _ _ _⟩
    · simp only [hc, if_false, decide_false, Bool.false_eq_true]
      exact ih _ _ _

/-- In a full run the polled iterations are exactly those with `counter % every = 0`: the trace
is a prefix of that list and has its length. -/
theorem pollLoopTr_silent (xs : List α) (c p : Nat) (s : σ)
    (h : ∀ j, p ≤ j → j < p + pollCnt every c xs.length → wd j = false) :
    (pollLoopTr every wd body xs c p s).2
      = (List.range' c xs.length).filter (fun i => i % every = 0) := by
  apply (pollLoopTr_prefix every wd body xs c p s).eq_of_length
  have hlen := pollLoopTr_polls every wd body xs c p s
  rw [pollLoopTr_fst, pollLoop_silent every wd body xs c p s h] at hlen
  have hlen : p + pollCnt every c xs.length
      = p + (pollLoopTr every wd body xs c p s).2.length := hlen
  rw [← pollCnt_eq_filter_range']
  omega

/-- Any watchdog: the iterations that poll are an initial segment of `polledIdx every n`. -/
theorem pollLoop_polled_iterations_prefix (xs : List α) (p : Nat) (s : σ) :
    (pollLoopTr every wd body xs 0 p s).2 <+: polledIdx every xs.length := by
  rw [polledIdx, List.range_eq_range']
  exact pollLoopTr_prefix every wd body xs 0 p s

theorem mem_polledIdx (n i : Nat) : i ∈ polledIdx every n ↔ i < n ∧ i % every = 0 := by
  simp [polledIdx]

end Loop

/-- `pollLoop_stop` without `p ≤ k` is false: the poll `k = 0` is not a poll of a loop that starts at `p = 1`. -/
theorem pollLoop_stop_now_needs_le :
    let wd : Nat → Bool := fun k => k == 0
    (∀ j, 1 ≤ j → j < 0 → wd j = false) ∧ wd 0 = true ∧ 0 < 1 + pollCnt 1 0 [()].length ∧
      pollLoop 1 wd (fun (u : Unit) (_ : Unit) => u) [()] 0 1 () = .done () 2 := by
  refine ⟨fun j _ h => by omega, rfl, by decide, rfl⟩

/-! ## 2. The whole analysis -/

section Pipeline
variable (every : Nat) (wd : Nat → Bool)

/-- The fold `vmLoop` runs in one iteration: the copy loops of the executed opcode. -/
abbrev runIter (it : VMIter) (st : VMState) : VMState :=
  it.foldl (fun s len => copyLoop every wd len s) st

/-- Polls issued by the copy loops of one iteration in an unstopped run. -/
def iterPolls (it : VMIter) : Nat := (it.map (pollCnt every 0)).sum

/-- Polls issued by an unstopped VM run over the schedule, main-loop counter starting at `c`. -/
def vmPolls : List VMIter → Nat → Nat
  | [], _ => 0
  | it :: rest, c => (if c % every = 0 then 1 else 0) + iterPolls every it + vmPolls rest (c + 1)

/-- Polls issued by the unstopped phases. -/
def phasePolls (tc : List Nat) : Nat := (tc.map (pollCnt every 0)).sum

/-- The closed form `N`: main loop `⌈vm.length / every⌉`, plus `⌈len / every⌉` for every copy
loop, plus `⌈n / every⌉` for every phase. -/
def totalPolls (vm : List VMIter) (tc : List Nat) : Nat :=
  cdiv vm.length every + (vm.flatten.map (fun len => cdiv len every)).sum
    + (tc.map (fun n => cdiv n every)).sum

/-- Number of non-empty copy loops in a list of copy-loop lengths. -/
def nonempties (l : List Nat) : Nat := l.countP (fun len => len != 0)

theorem iterPolls_cons (len : Nat) (it : VMIter) :
    iterPolls every (len :: it) = pollCnt every 0 len + iterPolls every it := by
  simp only [iterPolls, List.map_cons, List.sum_cons]

theorem phasePolls_cons (n : Nat) (tc : List Nat) :
    phasePolls every (n :: tc) = pollCnt every 0 n + phasePolls every tc :=
  iterPolls_cons every n tc

theorem vmPolls_eq (vm : List VMIter) (c : Nat) :
    vmPolls every vm c = pollCnt every c vm.length + (vm.flatten.map (pollCnt every 0)).sum := by
  induction vm generalizing c with
  | nil => rfl
  | cons it rest ih =>
    simp only [vmPolls, ih, List.length_cons, pollCnt, List.flatten_cons, List.map_append,
      List.sum_append, iterPolls]
    omega

private theorem map_pollCnt_eq {every : Nat} (hev : 0 < every) (l : List Nat) :
    l.map (pollCnt every 0) = l.map (fun n => cdiv n every) :=
  List.map_congr_left (fun n _ => poll_count hev n)

theorem vmPolls_closed {every : Nat} (hev : 0 < every) (vm : List VMIter) :
    vmPolls every vm 0
      = cdiv vm.length every + (vm.flatten.map (fun len => cdiv len every)).sum := by
  rw [vmPolls_eq, map_pollCnt_eq hev, poll_count hev]; rfl

theorem phasePolls_closed {every : Nat} (hev : 0 < every) (tc : List Nat) :
    phasePolls every tc = (tc.map (fun n => cdiv n every)).sum := by
  rw [phasePolls, map_pollCnt_eq hev]

/-! ### the loops that compute nothing: copy loops and phases -/

theorem unitLoop_silent (n p : Nat)
    (h : ∀ j, p ≤ j → j < p + pollCnt every 0 n → wd j = false) :
    pollLoop every wd (fun (u : Unit) (_ : Unit) => u) (List.replicate n ()) 0 p ()
      = .done () (p + pollCnt every 0 n) := by
  have := pollLoop_silent every wd (fun (u : Unit) (_ : Unit) => u)
    (List.replicate n ()) 0 p ()
  rw [List.length_replicate] at this
  exact this h

theorem unitLoop_stop (n p k : Nat) (hpk : p ≤ k) (hf : ∀ j, p ≤ j → j < k → wd j = false)
    (ht : wd k = true) (hk : k < p + pollCnt every 0 n) :
    pollLoop every wd (fun (u : Unit) (_ : Unit) => u) (List.replicate n ()) 0 p ()
      = .stopped (k + 1) :=
  pollLoop_stop every wd _ _ 0 p () k hpk hf ht (by rw [List.length_replicate]; exact hk)

theorem copyLoop_silent (len p : Nat) (r : Bool)
    (h : ∀ j, p ≤ j → j < p + pollCnt every 0 len → wd j = false) :
    copyLoop every wd len ⟨p, r⟩ = ⟨p + pollCnt every 0 len, r⟩ := by
  unfold copyLoop
  rw [unitLoop_silent every wd len p h]

theorem copyLoop_stop (len p : Nat) (r : Bool) (k : Nat) (hpk : p ≤ k)
    (hf : ∀ j, p ≤ j → j < k → wd j = false) (ht : wd k = true)
    (hk : k < p + pollCnt every 0 len) :
    copyLoop every wd len ⟨p, r⟩ = ⟨k + 1, true⟩ := by
  unfold copyLoop
  rw [unitLoop_stop every wd len p k hpk hf ht hk]

theorem phases_cons_silent (n : Nat) (rest : List Nat) (p : Nat)
    (h : ∀ j, p ≤ j → j < p + pollCnt every 0 n → wd j = false) :
    phases every wd (n :: rest) p = phases every wd rest (p + pollCnt every 0 n) := by
  rw [phases, unitLoop_silent every wd n p h]

theorem runIter_cons (len : Nat) (it : VMIter) (st : VMState) :
    runIter every wd (len :: it) st = runIter every wd it (copyLoop every wd len st) := rfl

/-! ### unstopped runs -/

theorem runIter_silent (it : VMIter) (p : Nat) (r : Bool)
    (h : ∀ j, p ≤ j → j < p + iterPolls every it → wd j = false) :
    runIter every wd it ⟨p, r⟩ = ⟨p + iterPolls every it, r⟩ := by
  induction it generalizing p with
  | nil => rfl
  | cons len rest ih =>
    rw [iterPolls_cons] at h ⊢
    rw [runIter_cons, copyLoop_silent every wd len p r (fun j h1 h2 => h j h1 (by omega)),
      ← Nat.add_assoc]
    exact ih _ (fun j h1 h2 => h j (by omega) (by omega))

/-- An iteration of the main loop whose poll (if it issues one) is answered `false`. -/
theorem vmLoop_cons (it : VMIter) (rest : List VMIter) (c p : Nat) (r : Bool)
    (h : c % every = 0 → wd p = false) :
    vmLoop every wd (it :: rest) c ⟨p, r⟩
      = vmLoop every wd rest (c + 1)
          (runIter every wd it ⟨p + if c % every = 0 then 1 else 0, r⟩) := by
  rw [vmLoop]
  by_cases hc : c % every = 0
  · simp only [if_pos hc, h hc]; rfl
  · simp only [if_neg hc]; rfl

theorem vmLoop_cons_stop (it : VMIter) (rest : List VMIter) (c p : Nat) (r : Bool)
    (hc : c % every = 0) (ht : wd p = true) :
    vmLoop every wd (it :: rest) c ⟨p, r⟩ = .stopped (p + 1) := by
  rw [vmLoop]
  simp only [if_pos hc, ht, if_true]

/-- A prefix of the schedule on whose polls the watchdog is silent only advances counter and
poll count. -/
theorem vmLoop_append_silent (pre rest : List VMIter) (c p : Nat) (r : Bool)
    (h : ∀ j, p ≤ j → j < p + vmPolls every pre c → wd j = false) :
    vmLoop every wd (pre ++ rest) c ⟨p, r⟩
      = vmLoop every wd rest (c + pre.length) ⟨p + vmPolls every pre c, r⟩ := by
  induction pre generalizing c p with
  | nil => rfl
  | cons it pre ih =>
    simp only [vmPolls] at h ⊢
    rw [List.cons_append,
      vmLoop_cons every wd it _ c p r (fun hc => h p (Nat.le_refl _) (by rw [if_pos hc]; omega)),
      runIter_silent every wd it _ r (fun j h1 h2 => h j (by omega) (by omega)),
      ih (c + 1) _ (fun j h1 h2 => h j (by omega) (by omega)), List.length_cons,
      show c + 1 + pre.length = c + (pre.length + 1) by omega]
    simp only [Nat.add_assoc]

theorem vmLoop_silent (vm : List VMIter) (c p : Nat) (r : Bool)
    (h : ∀ j, p ≤ j → j < p + vmPolls every vm c → wd j = false) :
    vmLoop every wd vm c ⟨p, r⟩
      = if r then .failedWithStop (p + vmPolls every vm c)
        else .finished (p + vmPolls every vm c) := by
  have := vmLoop_append_silent every wd vm [] c p r h
  rw [List.append_nil] at this
  rw [this, vmLoop]

theorem phases_silent (tc : List Nat) (p : Nat)
    (h : ∀ j, p ≤ j → j < p + phasePolls every tc → wd j = false) :
    phases every wd tc p = .finished (p + phasePolls every tc) := by
  induction tc generalizing p with
  | nil => rfl
  | cons n rest ih =>
    rw [phasePolls_cons] at h ⊢
    rw [phases_cons_silent every wd n rest p (fun j h1 h2 => h j h1 (by omega)), ← Nat.add_assoc]
    exact ih _ (fun j h1 h2 => h j (by omega) (by omega))

/-- `pipeline_silent_totalPolls` with the polls counted by recursion over the schedule. -/
theorem pipeline_silent (vm : List VMIter) (tc : List Nat)
    (h : ∀ k, k < vmPolls every vm 0 + phasePolls every tc → wd k = false) :
    pipeline every wd vm tc = .finished (vmPolls every vm 0 + phasePolls every tc) := by
  unfold pipeline
  rw [vmLoop_silent every wd vm 0 0 false (fun j _ h2 => h j (by omega))]
  simp only [Bool.false_eq_true, if_false, Nat.zero_add]
  exact phases_silent every wd tc _ (fun j _ h2 => h j h2)

/-! ### a recorded stop is never lost -/

theorem copyLoop_stopRecorded_mono (len : Nat) (st : VMState) (h : st.stopRecorded = true) :
    (copyLoop every wd len st).stopRecorded = true := by
  unfold copyLoop
  split
  · exact h
  · rfl

theorem runIter_recorded (it : VMIter) (st : VMState) (h : st.stopRecorded = true) :
    (runIter every wd it st).stopRecorded = true := by
  induction it generalizing st with
  | nil => exact h
  | cons len rest ih => exact ih _ (copyLoop_stopRecorded_mono every wd len st h)

/-- Once a stop is recorded the main loop cannot end `.finished`, whatever the watchdog says. -/
theorem vmLoop_recorded (vm : List VMIter) (c : Nat) (st : VMState) (h : st.stopRecorded = true)
    (P : Nat) : vmLoop every wd vm c st ≠ .finished P := by
  induction vm generalizing c st with
  | nil => rw [vmLoop, if_pos h]; exact fun e => nomatch e
  | cons it rest ih =>
    rw [vmLoop]
    split
    · split
      · exact fun e => nomatch e
      · exact ih _ _ (runIter_recorded every wd it _ h)
    · exact ih _ _ (runIter_recorded every wd it _ h)

/-- Unless the main loop ends `.finished`, its outcome is the outcome of the analysis. -/
theorem pipeline_of_vmLoop (vm : List VMIter) (tc : List Nat)
    (h : ∀ P, vmLoop every wd vm 0 { polls := 0, stopRecorded := false } ≠ .finished P) :
    pipeline every wd vm tc = vmLoop every wd vm 0 { polls := 0, stopRecorded := false } := by
  unfold pipeline
  split
  · rename_i P e; exact absurd e (h P)
  · rfl

theorem phases_stop (tc : List Nat) (p k : Nat) (hpk : p ≤ k)
    (hf : ∀ j, p ≤ j → j < k → wd j = false) (ht : wd k = true)
    (hk : k < p + phasePolls every tc) :
    phases every wd tc p = .stopped (k + 1) := by
  induction tc generalizing p with
  | nil => exact absurd hk (by simp only [phasePolls, List.map_nil, List.sum_nil]; omega)
  | cons n rest ih =>
    rw [phasePolls_cons] at hk
    by_cases hkn : k < p + pollCnt every 0 n
    · rw [phases, unitLoop_stop every wd n p k hpk hf ht hkn]
    · rw [phases_cons_silent every wd n rest p (fun j h1 h2 => hf j h1 (by omega))]
      exact ih _ (by omega) (fun j h1 h2 => hf j (by omega) h2) (by omega)

/-- A watchdog that would fire only after the last poll changes nothing. -/
theorem pipeline_silent_totalPolls (hev : 0 < every) (vm : List VMIter) (tc : List Nat)
    (h : ∀ k, k < totalPolls every vm tc → wd k = false) :
    pipeline every wd vm tc = .finished (totalPolls every vm tc) := by
  rw [totalPolls, ← vmPolls_closed hev, ← phasePolls_closed hev] at h ⊢
  exact pipeline_silent every wd vm tc h

/-- A never-stopping watchdog is transparent; `N = totalPolls every vm tc`. -/
theorem pipeline_transparent (hev : 0 < every) (vm : List VMIter) (tc : List Nat)
    (h : ∀ k, wd k = false) :
    pipeline every wd vm tc = .finished (totalPolls every vm tc) :=
  pipeline_silent_totalPolls every wd hev vm tc (fun k _ => h k)

/-! ### Where a stop surfaces -/

/-- Main loop: the first `true` answer goes to the main-loop poll of iteration `pre.length`
(poll number `vmPolls every pre 0`): the outcome is `.stopped (k + 1)`, zero further polls. -/
theorem pipeline_stop_at_main (pre : List VMIter) (it : VMIter) (post : List VMIter)
    (tc : List Nat) (k : Nat) (hc : pre.length % every = 0) (hk : k = vmPolls every pre 0)
    (hf : ∀ j, j < k → wd j = false) (ht : wd k = true) :
    pipeline every wd (pre ++ it :: post) tc = .stopped (k + 1) := by
  subst hk
  unfold pipeline
  rw [vmLoop_append_silent every wd pre _ 0 0 false (fun j _ h2 => hf j (by omega)),
    Nat.zero_add, Nat.zero_add, vmLoop_cons_stop every wd _ _ _ _ _ hc ht]

/-- Phases: the first `true` answer goes to a poll issued by a phase loop (any poll number in
`[vmPolls, vmPolls + phasePolls)`): the outcome is `.stopped (k + 1)`, zero further polls. -/
theorem pipeline_stop_at_phase (vm : List VMIter) (tc : List Nat) (k : Nat)
    (hk1 : vmPolls every vm 0 ≤ k) (hk2 : k < vmPolls every vm 0 + phasePolls every tc)
    (hf : ∀ j, j < k → wd j = false) (ht : wd k = true) :
    pipeline every wd vm tc = .stopped (k + 1) := by
  unfold pipeline
  rw [vmLoop_silent every wd vm 0 0 false (fun j _ h2 => hf j (by omega))]
  simp only [Bool.false_eq_true, if_false, Nat.zero_add]
  exact phases_stop every wd tc _ k hk1 (fun j _ h2 => hf j h2) ht hk2

/-! #### after a stop recorded by a copy loop -/

/-- What `vmLoop` does once a stop is recorded and the watchdog keeps saying stop: every non-empty
copy loop issues exactly one poll, the next main-loop poll returns `.stopped`, and running out of
schedule returns `.failedWithStop`. -/
def afterStop : List VMIter → Nat → Nat → Outcome
  | [], _, p => .failedWithStop p
  | it :: rest, c, p =>
    if c % every = 0 then .stopped (p + 1) else afterStop rest (c + 1) (p + nonempties it)

theorem nonempties_cons (len : Nat) (l : List Nat) :
    nonempties (len :: l) = (if len = 0 then 0 else 1) + nonempties l := by
  unfold nonempties
  rw [List.countP_cons]
  by_cases h : len = 0 <;> simp [h]; omega

theorem nonempties_append (l₁ l₂ : List Nat) :
    nonempties (l₁ ++ l₂) = nonempties l₁ + nonempties l₂ := List.countP_append

theorem nonempties_le_sum (l : List Nat) : nonempties l ≤ l.sum := by
  induction l with
  | nil => exact Nat.le_refl _
  | cons a l ih => rw [nonempties_cons, List.sum_cons]; split <;> omega

theorem copyLoop_after_stop (len p : Nat) (hw : wd p = true) :
    copyLoop every wd len ⟨p, true⟩ = ⟨p + (if len = 0 then 0 else 1), true⟩ := by
  cases len with
  | zero => rfl
  | succ n => simp [copyLoop, List.replicate_succ, pollLoop, hw]

theorem runIter_after_stop (it : VMIter) (p : Nat) (hw : ∀ j, p ≤ j → wd j = true) :
    runIter every wd it ⟨p, true⟩ = ⟨p + nonempties it, true⟩ := by
  induction it generalizing p with
  | nil => rfl
  | cons len rest ih =>
    rw [runIter_cons, copyLoop_after_stop every wd len p (hw _ (Nat.le_refl _)),
      nonempties_cons, ← Nat.add_assoc]
    exact ih _ (fun j h => hw j (by omega))

theorem vmLoop_after_stop (vm : List VMIter) (c p : Nat) (hw : ∀ j, p ≤ j → wd j = true) :
    vmLoop every wd vm c ⟨p, true⟩ = afterStop every vm c p := by
  induction vm generalizing c p with
  | nil => rfl
  | cons it rest ih =>
    rw [afterStop]
    by_cases hc : c % every = 0
    · rw [if_pos hc, vmLoop_cons_stop every wd it rest c p true hc (hw p (Nat.le_refl _))]
    · rw [if_neg hc, vmLoop_cons every wd it rest c p true (fun h => absurd h hc), if_neg hc,
        runIter_after_stop every wd it _ (fun j h => hw j (by omega))]
      exact ih _ _ (fun j h => hw j (by omega))

theorem afterStop_not_finished (vm : List VMIter) (c p : Nat) :
    ∃ q, p ≤ q ∧ (afterStop every vm c p = .stopped q ∨ afterStop every vm c p = .failedWithStop q) := by
  induction vm generalizing c p with
  | nil => exact ⟨p, Nat.le_refl _, Or.inr rfl⟩
  | cons it rest ih =>
    rw [afterStop]
    by_cases hc : c % every = 0
    · rw [if_pos hc]; exact ⟨p + 1, by omega, Or.inl rfl⟩
    · rw [if_neg hc]
      obtain ⟨q, h1, h2⟩ := ih (c + 1) (p + nonempties it)
      exact ⟨q, by omega, h2⟩

/-- The stop surfaces at the next main-loop poll: if that poll is `d` iterations away (or the
schedule ends before), the polls issued meanwhile are one per non-empty copy loop in those `d`
iterations, plus the main poll. -/
theorem afterStop_polls_le (vm : List VMIter) (c p d : Nat)
    (hd : (c + d) % every = 0 ∨ vm.length ≤ d) :
    (afterStop every vm c p).polls ≤ p + nonempties (vm.take d).flatten + 1 := by
  induction vm generalizing c p d with
  | nil => simp only [afterStop, Outcome.polls]; omega
  | cons it rest ih =>
    rw [afterStop]
    by_cases hc : c % every = 0
    · simp only [if_pos hc, Outcome.polls]; omega
    · rw [if_neg hc]
      cases d with
      | zero => exact absurd hd (by simp [hc])
      | succ d =>
        have := ih (c + 1) (p + nonempties it) d
          (hd.imp (fun h => by rw [← h]; congr 1; omega) Nat.le_of_succ_le_succ)
        rw [List.take_succ_cons, List.flatten_cons, nonempties_append]
        omega

/-- The next main-loop poll is fewer than `every` iterations away. -/
theorem exists_next_poll {every : Nat} (hev : 0 < every) (c : Nat) :
    ∃ d, d < every ∧ (c + d) % every = 0 := by
  have h := Nat.div_add_mod c every
  have hr := Nat.mod_lt c hev
  by_cases hr0 : c % every = 0
  · exact ⟨0, hev, hr0⟩
  · refine ⟨every - c % every, by omega, ?_⟩
    rw [show c + (every - c % every) = every * (c / every + 1) by rw [Nat.mul_succ]; omega,
      Nat.mul_mod_right]

/-- One VM iteration in which copy loop `len` (after the copy loops `itPre`) receives the first
`true` answer, at poll `k`: the stop is recorded and the remaining copy loops run. -/
theorem runIter_to_copy (itPre : VMIter) (len : Nat) (itPost : VMIter) (p : Nat) (r : Bool)
    (k : Nat) (hk1 : p + iterPolls every itPre ≤ k)
    (hk2 : k < p + iterPolls every itPre + pollCnt every 0 len)
    (hf : ∀ j, p ≤ j → j < k → wd j = false) (ht : wd k = true) :
    runIter every wd (itPre ++ len :: itPost) ⟨p, r⟩ = runIter every wd itPost ⟨k + 1, true⟩ := by
  rw [show runIter every wd (itPre ++ len :: itPost) ⟨p, r⟩
      = runIter every wd itPost (copyLoop every wd len (runIter every wd itPre ⟨p, r⟩))
      from List.foldl_append ..,
    runIter_silent every wd itPre p r (fun j a b => hf j a (by omega)),
    copyLoop_stop every wd len _ r k hk1 (fun j a b => hf j (by omega) b) ht hk2]

/-- The VM main loop when the first `true` answer goes to a copy-loop poll: copy loop `len` of
iteration `pre.length`, preceded in that iteration by the copy loops `itPre`. -/
theorem vmLoop_to_copy (pre : List VMIter) (itPre : VMIter) (len : Nat) (itPost : VMIter)
    (post : List VMIter) (c p : Nat) (r : Bool) (k : Nat)
    (hk1 : p + vmPolls every pre c + (if (c + pre.length) % every = 0 then 1 else 0)
            + iterPolls every itPre ≤ k)
    (hk2 : k < p + vmPolls every pre c + (if (c + pre.length) % every = 0 then 1 else 0)
            + iterPolls every itPre + pollCnt every 0 len)
    (hf : ∀ j, p ≤ j → j < k → wd j = false) (ht : wd k = true) :
    vmLoop every wd (pre ++ (itPre ++ len :: itPost) :: post) c ⟨p, r⟩
      = vmLoop every wd post (c + pre.length + 1) (runIter every wd itPost ⟨k + 1, true⟩) := by
  rw [vmLoop_append_silent every wd pre _ c p r (fun j a b => hf j a (by omega)),
    vmLoop_cons every wd _ _ _ _ r (fun hc => hf _ (by omega) (by rw [if_pos hc] at hk1; omega)),
    runIter_to_copy every wd itPre len itPost _ r k hk1 hk2 (fun j a b => hf j (by omega) b) ht]

/-- Copy loops, exact form. The first `true` answer (monotone watchdog) goes to poll `k`,
issued by copy loop `len` of iteration `pre.length` (after that iteration's copy loops `itPre`).
The outcome is exactly `afterStop`: never a layout, never silently dropped. -/
theorem pipeline_stop_at_copy_exact (pre : List VMIter) (itPre : VMIter) (len : Nat)
    (itPost : VMIter) (post : List VMIter) (tc : List Nat) (k : Nat)
    (hmono : ∀ j k, j ≤ k → wd j = true → wd k = true)
    (hk1 : vmPolls every pre 0 + (if pre.length % every = 0 then 1 else 0)
            + iterPolls every itPre ≤ k)
    (hk2 : k < vmPolls every pre 0 + (if pre.length % every = 0 then 1 else 0)
            + iterPolls every itPre + pollCnt every 0 len)
    (hf : ∀ j, j < k → wd j = false) (ht : wd k = true) :
    pipeline every wd (pre ++ (itPre ++ len :: itPost) :: post) tc
      = afterStop every post (pre.length + 1) (k + 1 + nonempties itPost) := by
  have hw : ∀ j, k ≤ j → wd j = true := fun j hj => hmono k j hj ht
  have h := vmLoop_to_copy every wd pre itPre len itPost post 0 0 false k
    (by simpa using hk1) (by simpa using hk2) (fun j _ b => hf j b) ht
  rw [Nat.zero_add, runIter_after_stop every wd itPost _ (fun j hj => hw j (by omega))] at h
  rw [pipeline_of_vmLoop every wd _ tc
      (fun P => h ▸ vmLoop_recorded every wd post _ _ rfl P), h]
  exact vmLoop_after_stop every wd post _ _ (fun j hj => hw j (by omega))

/-! ### the three kinds of polls are exhaustive -/

theorem iterPoll_classify (it : VMIter) (j : Nat) (hj : j < iterPolls every it) :
    ∃ itPre len itPost, it = itPre ++ len :: itPost ∧ iterPolls every itPre ≤ j
      ∧ j < iterPolls every itPre + pollCnt every 0 len := by
  induction it generalizing j with
  | nil => exact absurd hj (Nat.not_lt_zero _)
  | cons len rest ih =>
    rw [iterPolls_cons] at hj
    by_cases h : j < pollCnt every 0 len
    · exact ⟨[], len, rest, rfl, Nat.zero_le _, by rw [show iterPolls every [] = 0 from rfl]; omega⟩
    · obtain ⟨a, l, b, e, h1, h2⟩ := ih (j - pollCnt every 0 len) (by omega)
      refine ⟨len :: a, l, b, by rw [e]; rfl, ?_, ?_⟩ <;> rw [iterPolls_cons] <;> omega

/-- Every poll of the unstopped VM run is a main-loop poll or a copy-loop poll, in the sense used
by `pipeline_stop_at_main` / `pipeline_stop_at_copy_exact`. -/
theorem vmPoll_classify (vm : List VMIter) (c k : Nat) (hk : k < vmPolls every vm c) :
    (∃ pre it post, vm = pre ++ it :: post ∧ (c + pre.length) % every = 0
        ∧ k = vmPolls every pre c)
    ∨ (∃ pre itPre len itPost post, vm = pre ++ (itPre ++ len :: itPost) :: post
        ∧ vmPolls every pre c + (if (c + pre.length) % every = 0 then 1 else 0)
            + iterPolls every itPre ≤ k
        ∧ k < vmPolls every pre c + (if (c + pre.length) % every = 0 then 1 else 0)
            + iterPolls every itPre + pollCnt every 0 len) := by
  induction vm generalizing c k with
  | nil => exact absurd hk (Nat.not_lt_zero _)
  | cons it rest ih =>
    rw [vmPolls] at hk
    by_cases h1 : k < (if c % every = 0 then 1 else 0)
    · -- the main-loop poll of this iteration
      by_cases hc : c % every = 0
      · rw [if_pos hc] at h1
        exact Or.inl ⟨[], it, rest, rfl, hc, by rw [vmPolls]; omega⟩
      · rw [if_neg hc] at h1; omega
    · by_cases h2 : k < (if c % every = 0 then 1 else 0) + iterPolls every it
      · -- a copy loop of this iteration
        obtain ⟨a, l, b, e, g1, g2⟩ := iterPoll_classify every it
          (k - (if c % every = 0 then 1 else 0)) (by omega)
        refine Or.inr ⟨[], a, l, b, rest, by rw [e]; rfl, ?_, ?_⟩ <;>
          simp only [vmPolls, List.length_nil, Nat.add_zero, Nat.zero_add] <;> omega
      · -- a later iteration: shift the decomposition found there by `it`
        have e' : ∀ pre : List VMIter, c + (it :: pre).length = c + 1 + pre.length := fun pre => by
          rw [List.length_cons]; omega
        rcases ih (c + 1) (k - ((if c % every = 0 then 1 else 0) + iterPolls every it))
            (by omega) with ⟨pre, it', post, e, g1, g2⟩ | ⟨pre, a, l, b, post, e, g1, g2⟩
        · exact Or.inl ⟨it :: pre, it', post, by rw [e]; rfl, by rw [e']; exact g1,
            by rw [vmPolls]; omega⟩
        · refine Or.inr ⟨it :: pre, a, l, b, post, by rw [e]; rfl, ?_, ?_⟩ <;>
            rw [e', vmPolls] <;> omega

/-! ### no layout after a `true` answer -/

/-- If some poll of the unstopped run is answered `true`, the analysis does not end `.finished`:
the first such poll stops a main loop or a phase, or is recorded by a copy loop. -/
theorem pipeline_not_finished (vm : List VMIter) (tc : List Nat) (k : Nat)
    (hk : k < vmPolls every vm 0 + phasePolls every tc)
    (hf : ∀ j, j < k → wd j = false) (ht : wd k = true) (P : Nat) :
    pipeline every wd vm tc ≠ .finished P := by
  by_cases hvm : k < vmPolls every vm 0
  · rcases vmPoll_classify every vm 0 k hvm with
      ⟨pre, it, post, rfl, g1, g2⟩ | ⟨pre, a, l, b, post, rfl, g1, g2⟩
    · rw [pipeline_stop_at_main every wd pre it post tc k (by simpa using g1) g2 hf ht]
      exact fun e => nomatch e
    · have h := vmLoop_to_copy every wd pre a l b post 0 0 false k (by omega) (by omega)
        (fun j _ h2 => hf j h2) ht
      have hrec := fun P => vmLoop_recorded every wd post (0 + pre.length + 1) _
        (runIter_recorded every wd b ⟨k + 1, true⟩ rfl) P
      rw [pipeline_of_vmLoop every wd _ tc (fun P => h ▸ hrec P), h]
      exact hrec P
  · rw [pipeline_stop_at_phase every wd vm tc k (by omega) hk hf ht]
    exact fun e => nomatch e

/-- The analysis ends with a layout iff every one of the `N` polls of the unstopped run is
answered `false`; the poll count is then `N`. No hypothesis on `wd` or `every`. -/
theorem pipeline_finished_iff (vm : List VMIter) (tc : List Nat) (P : Nat) :
    pipeline every wd vm tc = .finished P
      ↔ P = vmPolls every vm 0 + phasePolls every tc ∧ ∀ k, k < P → wd k = false := by
  constructor
  · intro h
    rcases first_true wd 0 (vmPolls every vm 0 + phasePolls every tc) with
      hall | ⟨k, _, h2, h3, h4⟩
    · have hall' : ∀ k, k < vmPolls every vm 0 + phasePolls every tc → wd k = false :=
        fun k hk => hall k (Nat.zero_le _) (by omega)
      rw [pipeline_silent every wd vm tc hall'] at h
      injection h with h
      subst h
      exact ⟨rfl, hall'⟩
    · exact absurd h (pipeline_not_finished every wd vm tc k (by omega)
        (fun j hj => h4 j (Nat.zero_le _) hj) h3 P)
  · rintro ⟨rfl, h⟩
    exact pipeline_silent every wd vm tc h

/-- If any poll that was actually issued was answered `true`, no layout is
returned. Monotonicity of the watchdog is not needed. -/
theorem pipeline_never_layout' (vm : List VMIter) (tc : List Nat)
    (h : ∃ k, k < (pipeline every wd vm tc).polls ∧ wd k = true) :
    (pipeline every wd vm tc).isLayout = false := by
  obtain ⟨k, hk, hwd⟩ := h
  cases hp : pipeline every wd vm tc with
  | finished P =>
    rw [hp] at hk
    rw [((pipeline_finished_iff every wd vm tc P).1 hp).2 k hk] at hwd
    cases hwd
  | stopped _ => rfl
  | failedWithStop _ => rfl

/-- The same as C13 words it: `0 < every` and monotonicity are not needed. -/
theorem pipeline_never_layout (_hev : 0 < every) (vm : List VMIter) (tc : List Nat)
    (_hmono : ∀ j k, j ≤ k → wd j = true → wd k = true)
    (h : ∃ k, k < (pipeline every wd vm tc).polls ∧ wd k = true) :
    (pipeline every wd vm tc).isLayout = false :=
  pipeline_never_layout' every wd vm tc h

/-- For a monotone watchdog whose first `true` answer is to poll `k < N`, the
analysis ends `.stopped` or `.failedWithStop` having issued at least `k + 1` polls. -/
theorem pipeline_first_stop (vm : List VMIter) (tc : List Nat) (k : Nat)
    (hmono : ∀ j k, j ≤ k → wd j = true → wd k = true)
    (hk : k < vmPolls every vm 0 + phasePolls every tc)
    (hf : ∀ j, j < k → wd j = false) (ht : wd k = true) :
    ∃ p, k + 1 ≤ p ∧ (pipeline every wd vm tc = .stopped p
        ∨ pipeline every wd vm tc = .failedWithStop p) := by
  by_cases hvm : k < vmPolls every vm 0
  · rcases vmPoll_classify every vm 0 k hvm with
      ⟨pre, it, post, rfl, g1, g2⟩ | ⟨pre, a, l, b, post, rfl, g1, g2⟩
    · exact ⟨k + 1, Nat.le_refl _, Or.inl (pipeline_stop_at_main every wd pre it post tc k
        (by simpa using g1) g2 hf ht)⟩
    · simp only [Nat.zero_add] at g1 g2
      rw [pipeline_stop_at_copy_exact every wd pre a l b post tc k hmono g1 g2 hf ht]
      obtain ⟨q, h1, h2⟩ := afterStop_not_finished every post (pre.length + 1)
        (k + 1 + nonempties b)
      exact ⟨q, by omega, h2⟩
  · exact ⟨k + 1, Nat.le_refl _, Or.inl (pipeline_stop_at_phase every wd vm tc k (by omega) hk
      hf ht)⟩

end Pipeline

end SLE.Poll

/-! ## Sanity checks of the definitions -/

section Sanity
open SLE.Poll

private def wdAt (n : Nat) : Nat → Bool := fun k => decide (n ≤ k)

example : totalPolls 3 [[5], [], [], [0, 7]] [4, 10] = 2 + (2 + 0 + 3) + (2 + 4) := by decide
example : pipeline 3 (wdAt 100) [[5], [], [], [0, 7]] [4, 10] = .finished 13 := by decide
example : pipeline 3 (wdAt 13) [[5], [], [], [0, 7]] [4, 10] = .finished 13 := by decide
-- poll 0 is the first main-loop poll
example : pipeline 3 (wdAt 0) [[5], [], [], [0, 7]] [4, 10] = .stopped 1 := by decide
-- poll 2 is the second poll of the copy loop of length 5: surfaces at the next main poll
example : pipeline 3 (wdAt 2) [[5], [], [], [0, 7]] [4, 10] = .stopped 4 := by decide
-- poll 5 is in the last copy loop: the schedule runs out, `.failedWithStop`
example : pipeline 3 (wdAt 5) [[5], [], [], [0, 7]] [4, 10] = .failedWithStop 6 := by decide
-- poll 12 is the last phase poll
example : pipeline 3 (wdAt 12) [[5], [], [], [0, 7]] [4, 10] = .stopped 13 := by decide
example : polledIdx 3 8 = [0, 3, 6] := by decide

end Sanity
