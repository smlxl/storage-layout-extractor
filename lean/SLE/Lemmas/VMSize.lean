import SLE.Lemmas.VMInv
import SLE.Props.C18
/-!
C18 at the machine level: every value the symbolic machine files anywhere in a thread's state
(stack, memory, storage, recorded / logged values) records its true size and has at most
`max valueLimit 1` nodes; the only exception is the `UnwrittenStorageValue [key]` placeholder
generation that `Storage::load` leaves in the storage map (key size + 1).
-/
namespace SLE.VMSize
open SLE SLE.SV SLE.VM
open SLE.Disasm (Instr)
open SLE.VMInv

/-- a value that records its true size everywhere and has at most `lim` nodes -/
def Good (lim : Nat) (v : SV) : Prop := WF v ∧ nodeCount v ≤ lim

/-- the `UnwrittenStorageValue` placeholder generation of `Storage::load` -/
def isPlaceholder (g : SV) : Bool := g.kind == .unwrittenStorageValue

/-- what a storage generation satisfies: `Good`, unless it is a placeholder (then key size + 1) -/
def GoodGen (lim : Nat) (g : SV) : Prop :=
  (isPlaceholder g = false → Good lim g) ∧ (isPlaceholder g = true → WF g ∧ nodeCount g ≤ lim + 1)

/-- the invariant of a thread's data -/
structure GoodD (lim : Nat) (d : TData) : Prop where
  stack : ∀ v ∈ d.stack, Good lim v
  memC : ∀ q ∈ d.memC, ∀ c ∈ q.2, Good lim c.data
  memS : ∀ q ∈ d.memS, Good lim q.1 ∧ ∀ c ∈ q.2, Good lim c.data
  stK : ∀ q ∈ d.stK, Good lim q.1 ∧ ∀ g ∈ q.2, GoodGen lim g
  stS : ∀ q ∈ d.stS, Good lim q.1 ∧ ∀ g ∈ q.2, GoodGen lim g
  recorded : ∀ v ∈ d.recorded, Good lim v
  logged : ∀ v ∈ d.logged, Good lim v

/-! ### values -/

theorem wfList_iff : ∀ ks : List SV, WFList ks ↔ ∀ x ∈ ks, WF x
  | [] => by simp [WFList]
  | k :: ks => by simp [WFList, wfList_iff ks]

theorem Good.wf {lim : Nat} {v : SV} (h : Good lim v) : WF v := h.1

theorem wf_kids {k a ks s} (h : WF (.node k a ks s)) : ∀ x ∈ ks, WF x := by
  simp only [WF] at h
  exact (wfList_iff ks).mp h.2

theorem wf_rebuild' {k : Kind} {a : List Nat} {ks : List SV} (h : ∀ x ∈ ks, WF x) :
    WF (rebuild k a ks) := wf_rebuild k a ks ((wfList_iff ks).mpr h)

theorem recSize_eq {v : SV} (h : WF v) : v.recSize = nodeCount v := SLE.C18.C18_size_eq_nodeCount v h

theorem nodeCount_rebuild (k : Kind) (a : List Nat) (ks : List SV) :
    nodeCount (rebuild k a ks) = nodeCountList ks + 1 := by
  simp [rebuild, nodeCount]

theorem good_mkKnown {lim : Nat} (hl : 1 ≤ lim) (w : Word) : Good lim (mkKnown w) :=
  ⟨wf_mkKnown w, by simpa [mkKnown, nodeCount, nodeCountList] using hl⟩

theorem good_mkValue {lim : Nat} (hl : 1 ≤ lim) (i : Nat) : Good lim (mkValue i) :=
  ⟨wf_mkValue i, by simpa [mkValue, nodeCount, nodeCountList] using hl⟩

theorem good_fold {lim : Nat} {v : SV} (h : Good lim v) : Good lim (fold v) :=
  ⟨wf_fold v, Nat.le_trans (nodeCount_fold_le v) h.2⟩

theorem good_mk (vl fresh : Nat) (k : Kind) (a : List Nat) (ks : List SV) (h : ∀ x ∈ ks, WF x) :
    Good (max vl 1) (SV.mk (some vl) fresh k a ks) :=
  ⟨wf_mk _ fresh k a ks ((wfList_iff ks).mpr h), nodeCount_mk_le vl fresh k a ks ((wfList_iff ks).mpr h)⟩

theorem good_gen {lim : Nat} {v : SV} (h : Good lim v) : GoodGen lim v :=
  ⟨fun _ => h, fun _ => ⟨h.1, Nat.le_succ_of_le h.2⟩⟩

theorem GoodGen.wf {lim : Nat} {v : SV} (h : GoodGen lim v) : WF v := by
  cases hp : isPlaceholder v
  · exact (h.1 hp).1
  · exact (h.2 hp).1

/-! ### builders -/

/-- A value built through the limit-checking builder over well-formed kids is `Good`. -/
theorem good_build (c : Ctx) (ctr : Nat) (k : Kind) (attrs : List Nat) (ks : List SV)
    (h : ∀ x ∈ ks, WF x) : Good (max c.cfg.valueLimit 1) (build c ctr k attrs ks).1 :=
  good_mk _ _ k attrs ks h

theorem good_buildKnown (c : Ctx) (ctr : Nat) (w : Word) :
    Good (max c.cfg.valueLimit 1) (buildKnown c ctr w).1 := good_build c ctr _ _ [] all_nil

theorem good_buildValue (c : Ctx) (ctr : Nat) : Good (max c.cfg.valueLimit 1) (buildValue c ctr).1 :=
  good_mkValue (Nat.le_max_right _ _) _

theorem instantiate_go_g {lim : Nat} {c : Ctx} (hc : max c.cfg.valueLimit 1 = lim) (args : List SV)
    (ha : ∀ a ∈ args, Good lim a) :
    ∀ (ts : List SV) (n : Nat), ∀ x ∈ (instantiate.go c args ts n).1, Good lim x :=
  fun ts n => instantiate_go_keeps (T := fun _ => True) (N := fun _ _ => True)
    (fun _ => ⟨trivial, fun _ _ => trivial⟩)
    (fun _ hks => hc ▸ good_mk _ _ _ _ _ (fun x hx => (hks x hx).1))
    (fun _ _ => trivial) (hc ▸ good_mkValue (Nat.le_max_right _ _) _) ha ts n (fun _ _ => trivial)

/-- Instantiating ANY template on `Good` arguments gives a `Good` value. -/
theorem good_instantiate (c : Ctx) (args : List SV) (tpl : SV) (ctr : Nat)
    (ha : ∀ a ∈ args, Good (max c.cfg.valueLimit 1) a) :
    Good (max c.cfg.valueLimit 1) (instantiate c args tpl ctr).1 :=
  instantiate_keeps (T := fun _ => True) (N := fun _ _ => True)
    (fun _ => ⟨trivial, fun _ _ => trivial⟩) (fun _ hks => good_mk _ _ _ _ _ (fun x hx => (hks x hx).1))
    (fun _ _ => trivial) (good_mkValue (Nat.le_max_right _ _) _) ha tpl ctr trivial

/-! ### every instruction keeps the invariant -/

theorem goodD_iff {lim : Nat} {d : TData} :
    GoodD lim d ↔ DataInv (Good lim) (Good lim) (GoodGen lim) d :=
  ⟨fun h => ⟨h.stack, h.memC, h.memS, h.stK, h.stS, h.recorded, h.logged⟩,
   fun h => ⟨h.stack, h.memC, h.memS, h.stK, h.stS, h.recorded, h.logged⟩⟩

section out
variable {lim : Nat}

theorem memLoad_v' (hl : 1 ≤ lim) {d : TData} {off : SV} (h : GoodD lim d) (ho : Good lim off) :
    Good lim (memLoad d off).1 := ((goodD_iff.mp h).memLoad (good_mkKnown hl _) (good_fold ho)).1
theorem memLoad_d' (hl : 1 ≤ lim) {d : TData} {off : SV} (h : GoodD lim d) (ho : Good lim off) :
    GoodD lim (memLoad d off).2 :=
  goodD_iff.mpr ((goodD_iff.mp h).memLoad (good_mkKnown hl _) (good_fold ho)).2

end out

/-- The builder cuts every node down to the limit, whatever the size of its kids; the loaders that
build without the limit (`concat`, the `SLoad` wrapper) still record the true size. -/
theorem builds_good (c : Ctx) : Builds c (Good (max c.cfg.valueLimit 1)) WF where
  weaken := Good.wf
  node := fun _ hks => good_mk _ _ _ _ _ hks
  fresh := good_mkValue (Nat.le_max_right _ _) _
  zero := good_mkKnown (Nat.le_max_right _ _) _
  fold := good_fold
  concat := fun hvs => wf_rebuild' (fun x hx => (hvs x hx).1)

/-- the placeholder generation: key size + 1 -/
theorem placeholder_gen {lim : Nat} {key : SV} (hk : Good lim key) :
    GoodGen lim (buildNoLimit .unwrittenStorageValue [] [key]) := by
  have hwf : WF (buildNoLimit .unwrittenStorageValue [] [key]) := wf_rebuild' (all_cons hk.1 all_nil)
  constructor
  · intro hp
    simp [isPlaceholder, buildNoLimit, rebuild, kind] at hp
  · intro _
    refine ⟨hwf, ?_⟩
    have := hk.2
    simp only [buildNoLimit, nodeCount_rebuild, nodeCountList]
    omega

/-- SLOAD's re-check (repair of D17): a well-formed value whose reported size passes the check
is within the limit. -/
theorem good_of_recheck {vl : Nat} {v : SV} (hw : WF v) (hle : ¬ v.recSize > vl) :
    Good (max vl 1) v := by
  refine ⟨hw, ?_⟩
  have := recSize_eq hw
  have := Nat.le_max_left vl 1
  omega

theorem storage_good (c : Ctx) :
    Storage c (Good (max c.cfg.valueLimit 1)) WF (Good (max c.cfg.valueLimit 1))
      (GoodGen (max c.cfg.valueLimit 1)) where
  key := id
  gen := good_gen
  placeholder := placeholder_gen
  weaken := GoodGen.wf
  kids := wf_kids
  sload := wf_rebuild'
  recheck := good_of_recheck

theorem good_execOp (c : Ctx) (code : List Instr) (ins : Instr) (d : TData) (ctr : Nat) :
    GoodD (max c.cfg.valueLimit 1) d → GoodD (max c.cfg.valueLimit 1) (execOp c code ins d ctr).d :=
  fun h => goodD_iff.mpr
    (DataInv.execOp (builds_good c) (goodD_iff.mp h) (fun _ => storage_good c)).d

/-! ### the machine invariant -/

/-- `GoodD` holds for every thread, queued or stored, of every state the machine reaches. -/
theorem good_run : ∀ cfg code fuel,
    ∀ t ∈ (run cfg code fuel (initVM cfg code)).queue ++ (run cfg code fuel (initVM cfg code)).stored,
      GoodD (max cfg.valueLimit 1) t.d :=
  fun cfg code fuel =>
    ti_run (I := GoodD (max cfg.valueLimit 1))
      (fun _ fp h => goodD_iff.mpr ((goodD_iff.mp h).fork fp))
      (fun ip ins d ctr _ h => good_execOp ⟨cfg, ip, code.length⟩ code ins d ctr h) fuel _
      (ti_init (goodD_iff.mpr DataInv.empty))

/-- C18 at the machine level. Every stack entry of every thread of every reachable state
reports its true size and has at most `max valueLimit 1` nodes. -/
theorem instruction_results_within_limit : ∀ cfg code fuel,
    ∀ t ∈ (run cfg code fuel (initVM cfg code)).queue ++ (run cfg code fuel (initVM cfg code)).stored,
      ∀ v ∈ t.d.stack, v.recSize = nodeCount v ∧ nodeCount v ≤ max cfg.valueLimit 1 := by
  intro cfg code fuel t ht v hv
  have h := (good_run cfg code fuel t ht).stack v hv
  exact ⟨recSize_eq h.1, h.2⟩

/-- …and likewise for everything else a thread holds: memory cells, storage keys, recorded and
logged values. -/
theorem stored_values_within_limit : ∀ cfg code fuel,
    ∀ t ∈ (run cfg code fuel (initVM cfg code)).queue ++ (run cfg code fuel (initVM cfg code)).stored,
      (∀ q ∈ t.d.memC, ∀ c ∈ q.2, c.data.recSize = nodeCount c.data ∧
          nodeCount c.data ≤ max cfg.valueLimit 1) ∧
      (∀ q ∈ t.d.memS, ∀ c ∈ q.2, c.data.recSize = nodeCount c.data ∧
          nodeCount c.data ≤ max cfg.valueLimit 1) ∧
      (∀ q ∈ t.d.stK ++ t.d.stS, ∀ g ∈ q.2, g.recSize = nodeCount g ∧
          (g.kind ≠ .unwrittenStorageValue → nodeCount g ≤ max cfg.valueLimit 1) ∧
          nodeCount g ≤ max cfg.valueLimit 1 + 1) ∧
      (∀ v ∈ t.d.recorded ++ t.d.logged, v.recSize = nodeCount v ∧
          nodeCount v ≤ max cfg.valueLimit 1) := by
  intro cfg code fuel t ht
  have h := good_run cfg code fuel t ht
  refine ⟨fun q hq c hc => ?_, fun q hq c hc => ?_, fun q hq g hg => ?_, fun v hv => ?_⟩
  · have := h.memC q hq c hc
    exact ⟨recSize_eq this.1, this.2⟩
  · have := (h.memS q hq).2 c hc
    exact ⟨recSize_eq this.1, this.2⟩
  · have hgen : GoodGen (max cfg.valueLimit 1) g := by
      rcases List.mem_append.mp hq with hq | hq
      · exact (h.stK q hq).2 g hg
      · exact (h.stS q hq).2 g hg
    refine ⟨recSize_eq hgen.wf, fun hne => ?_, ?_⟩
    · refine (hgen.1 ?_).2
      simpa [isPlaceholder] using hne
    · cases hp : isPlaceholder g
      · exact Nat.le_succ_of_le (hgen.1 hp).2
      · exact (hgen.2 hp).2
  · have : Good (max cfg.valueLimit 1) v := by
      rcases List.mem_append.mp hv with hv | hv
      · exact h.recorded v hv
      · exact h.logged v hv
    exact ⟨recSize_eq this.1, this.2⟩

/-! ### non-vacuity: the placeholder generation really can exceed the limit by one -/

/-- With limit 1, SLOAD of a one-node key leaves a two-node placeholder in the storage map (the
value pushed is the fresh one-node value). -/
example :
    let c : Ctx := { cfg := ⟨0, 0, 0, 1, 0, false⟩, ip := 0, codeLen := 1 }
    let d : TData := { stack := [mkKnown 7#256] }
    let o := execOp c [] (.op 0x54) d 0
    o.d.stK.map (fun q => q.2.map nodeCount) = [[2]] ∧ o.d.stack.map nodeCount = [1] := by
  decide

end SLE.VMSize

section
open SLE SLE.SV SLE.VM
#print axioms SLE.VMSize.good_build
#print axioms SLE.VMSize.good_buildKnown
#print axioms SLE.VMSize.good_buildValue
#print axioms SLE.VMSize.good_instantiate
#print axioms SLE.VMSize.good_execOp
#print axioms SLE.VMSize.good_run
#print axioms SLE.VMSize.instruction_results_within_limit
#print axioms SLE.VMSize.stored_values_within_limit
end
