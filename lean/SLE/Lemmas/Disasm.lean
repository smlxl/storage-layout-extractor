import SLE.Model.Disasm
/-! The loop of `disassemble` computes the chunk-wise reference decoding `spec`. -/
namespace SLE.Disasm

/-- Loop followed by the epilogue, from an arbitrary loop state. -/
def full (s : PState) (bs : List Nat) : Except DErr (List Instr) :=
  match run s bs with
  | .error e => .error e
  | .ok (is, sf) =>
    match finish sf with
    | .error e => .error e
    | .ok tail => .ok (is ++ tail)

def prepend (out : List Instr) : Except DErr (List Instr) → Except DErr (List Instr)
  | .error e => .error e
  | .ok is => .ok (out ++ is)

theorem full_nil (s : PState) : full s [] = finish s := by
  unfold full run
  cases h : finish s <;> simp [h]

theorem full_cons (s : PState) (b : Nat) (bs : List Nat) :
    full s (b :: bs) =
      match step s b with
      | .error e => .error e
      | .ok (s', out) => prepend out (full s' bs) := by
  unfold full
  simp only [run]
  cases hs : step s b with
  | error e => simp
  | ok p =>
    obtain ⟨s', out⟩ := p
    simp only []
    cases hr : run s' bs with
    | error e => simp [prepend]
    | ok q =>
      obtain ⟨rest, sf⟩ := q
      simp only []
      cases hf : finish sf with
      | error e => simp [prepend]
      | ok tail => simp [prepend, List.append_assoc]

theorem disasm_eq_full (bs : List Nat) (h : bs ≠ []) (hl : bs.length ≤ 2 ^ 32) :
    disasm bs = full idle bs := by
  unfold disasm full
  have : ¬ bs.length > 2 ^ 32 := by omega
  simp [h, this]
  rfl

theorem spec_nil : spec [] = [] := by unfold spec; rfl

theorem spec_cons (b : Nat) (bs : List Nat) :
    spec (b :: bs) =
      if isPush b then
        if b - 0x5f ≤ bs.length then
          .push (b - 0x5f) (bs.take (b - 0x5f)) ::
            (List.replicate (b - 0x5f) .nop ++ spec (bs.drop (b - 0x5f)))
        else .invalid b :: bs.map .invalid
      else if isKnown b then .op b :: spec bs
      else .invalid b :: spec bs := by
  rw [spec]

theorem isPush_bounds {b : Nat} (h : isPush b = true) : 0 < b - 0x5f ∧ b - 0x5f ≤ 32 := by
  unfold isPush at h
  simp at h
  omega

/-- The two-part loop invariant: from the idle state, and from inside a push that still
expects `r` of its `k` immediate bytes. -/
theorem full_spec_aux (bs : List Nat) :
    (full idle bs = .ok (spec bs)) ∧
    (∀ (lp k r : Nat) (pb : List Nat), 0 < r → pb.length + r = k → k ≤ 32 →
      full { lastPush := lp, pushSize := k, remaining := r, pushBytes := pb } bs =
        if r ≤ bs.length then
          .ok (.push k (pb ++ bs.take r) :: (List.replicate k .nop ++ spec (bs.drop r)))
        else .ok (.invalid lp :: (pb ++ bs).map .invalid)) := by
  induction bs with
  | nil =>
    constructor
    · rw [full_nil, spec_nil]; simp [finish, idle]
    · intro lp k r pb hr hk hk32
      rw [full_nil]
      have h1 : pb.length ≠ k := by omega
      have h2 : ¬ r ≤ 0 := by omega
      simp [finish, h1, h2]
  | cons b bs ih =>
    obtain ⟨ihI, ihP⟩ := ih
    constructor
    · rw [full_cons, spec_cons]
      by_cases hp : isPush b = true
      · have hb := isPush_bounds hp
        have hstep : step idle b =
            .ok ({ lastPush := b, pushSize := b - 0x5f, remaining := b - 0x5f, pushBytes := [] }, []) := by
          simp [step, idle, hp]
        rw [hstep]
        simp only []
        rw [ihP b (b - 0x5f) (b - 0x5f) [] hb.1 (by simp) hb.2]
        simp only [hp, if_true]
        by_cases hle : b - 0x5f ≤ bs.length
        · simp [hle, prepend]
        · simp [hle, prepend]
      · have hp' : isPush b = false := by simpa using hp
        by_cases hk : isKnown b = true
        · have hstep : step idle b = .ok (idle, [.op b]) := by simp [step, idle, hp', hk]
          rw [hstep]; simp only []
          rw [ihI]; simp [hp', hk, prepend]
        · have hk' : isKnown b = false := by simpa using hk
          have hstep : step idle b = .ok (idle, [.invalid b]) := by simp [step, idle, hp', hk']
          rw [hstep]; simp only []
          rw [ihI]; simp [hp', hk', prepend]
    · -- pending push: `r` is written `r' + 1`, so the step and the list operations reduce
      intro lp k r pb hr hk hk32
      obtain ⟨r, rfl⟩ := Nat.exists_eq_succ_of_ne_zero (Nat.ne_of_gt hr)
      rw [full_cons]
      cases r with
      | zero =>
        have hstep : step { lastPush := lp, pushSize := k, remaining := 0 + 1, pushBytes := pb } b =
            .ok (idle, .push k (pb ++ [b]) :: List.replicate k .nop) := by
          have hlen' : (pb ++ [b]).length = k := by simpa using hk
          have hk0 : 0 < k := by omega
          simp [step, pushNew, hk0, hk32, hlen']
        rw [hstep]; simp only []
        rw [ihI]
        simp [prepend]
      | succ r =>
        have hstep : step { lastPush := lp, pushSize := k, remaining := r + 1 + 1, pushBytes := pb } b =
            .ok ({ lastPush := lp, pushSize := k, remaining := r + 1, pushBytes := pb ++ [b] }, []) := by
          simp [step]
        rw [hstep]; simp only []
        rw [ihP lp k (r + 1) (pb ++ [b]) (Nat.succ_pos r) (by simp; omega) hk32]
        by_cases hle : r + 1 ≤ bs.length <;> simp [hle, prepend, List.append_assoc]

theorem full_idle_spec (bs : List Nat) : full idle bs = .ok (spec bs) :=
  (full_spec_aux bs).1

theorem disasm_ok {bs : List Nat} {is : List Instr} (h : disasm bs = .ok is) : is = spec bs := by
  have hne : bs ≠ [] := by rintro rfl; simp [disasm] at h
  have hl : bs.length ≤ 2 ^ 32 := by
    apply Decidable.byContradiction; intro hc
    have : bs.length > 2 ^ 32 := by omega
    simp [disasm, hne, this] at h
  rw [disasm_eq_full bs hne hl, full_idle_spec] at h
  exact (Except.ok.inj h).symm

/-! ### Properties of `spec` -/

theorem spec_length (bs : List Nat) : (spec bs).length = bs.length := by
  induction bs using spec.induct with
  | case1 => simp [spec_nil]
  | case2 b bs hp hle ih => simp [spec_cons, hp, hle, ih]
  | case3 b bs hp hle => simp [spec_cons, hp, hle]
  | case4 b bs hp hk ih => simp [spec_cons, hp, hk, ih]
  | case5 b bs hp hk ih => simp [spec_cons, hp, hk, ih]

theorem flatMap_replicate_nop (k : Nat) : (List.replicate k Instr.nop).flatMap Instr.encode = [] := by
  induction k with
  | zero => rfl
  | succ k ih => simp [List.replicate_succ, Instr.encode, ih]

theorem flatMap_map_invalid (l : List Nat) : (l.map Instr.invalid).flatMap Instr.encode = l := by
  induction l with
  | nil => rfl
  | cons a l ih => simp [Instr.encode, ih]

theorem spec_encode (bs : List Nat) : encodeAll (spec bs) = bs := by
  induction bs using spec.induct with
  | case1 => simp [spec_nil, encodeAll]
  | case2 b bs hp hle ih =>
    have hb : 0x5f + (b - 0x5f) = b := by unfold isPush at hp; simp at hp; omega
    unfold encodeAll at ih ⊢
    simp only [spec_cons, hp, hle, if_true, List.flatMap_cons, List.flatMap_append, Instr.encode,
      flatMap_replicate_nop, ih, List.nil_append, hb]
    simp [List.take_append_drop]
  | case3 b bs hp hle =>
    simp [spec_cons, encodeAll, hp, hle, Instr.encode, flatMap_map_invalid]
  | case4 b bs hp hk ih =>
    unfold encodeAll at ih ⊢
    simp [spec_cons, hp, hk, Instr.encode, ih]
  | case5 b bs hp hk ih =>
    unfold encodeAll at ih ⊢
    simp [spec_cons, hp, hk, Instr.encode, ih]

inductive All3 {α β γ : Type} (R : α → β → γ → Prop) : List α → List β → List γ → Prop where
  | nil : All3 R [] [] []
  | cons {a b c as bs cs} : R a b c → All3 R as bs cs → All3 R (a :: as) (b :: bs) (c :: cs)

theorem All3.append {α β γ : Type} {R : α → β → γ → Prop} {a1 a2 b1 b2 c1 c2}
    (h1 : All3 R a1 b1 c1) (h2 : All3 R a2 b2 c2) : All3 R (a1 ++ a2) (b1 ++ b2) (c1 ++ c2) := by
  induction h1 with
  | nil => simpa using h2
  | cons hr _ ih => exact All3.cons hr ih

theorem All3.get {α β γ : Type} {R : α → β → γ → Prop} {as bs cs}
    (h : All3 R as bs cs) (i : Nat) {a b c} (ha : as[i]? = some a) (hb : bs[i]? = some b)
    (hc : cs[i]? = some c) : R a b c := by
  induction h generalizing i with
  | nil => simp at ha
  | cons hr _ ih =>
    cases i with
    | zero => simp at ha hb hc; subst ha hb hc; exact hr
    | succ i => simp at ha hb hc; exact ih i ha hb hc

theorem All3.lengths {α β γ : Type} {R : α → β → γ → Prop} {as bs cs}
    (h : All3 R as bs cs) : as.length = bs.length ∧ as.length = cs.length := by
  induction h with
  | nil => simp
  | cons _ _ ih => simp only [List.length_cons]; omega

theorem all3_map {α β γ : Type} {R : α → β → γ → Prop} (x : β) (f : α → γ)
    (hR : ∀ a, R a x (f a)) (l : List α) :
    All3 R l (List.replicate l.length x) (l.map f) := by
  induction l with
  | nil => exact All3.nil
  | cons a l ih => simp [List.replicate_succ]; exact All3.cons (hR a) ih

theorem all3_replicate {α β γ : Type} {R : α → β → γ → Prop} (x : β) (y : γ)
    (hR : ∀ a, R a x y) (l : List α) :
    All3 R l (List.replicate l.length x) (List.replicate l.length y) := by
  have := all3_map x (fun _ => y) hR l
  rwa [List.map_const'] at this

theorem mask_nil : pushDataMask [] = [] := by unfold pushDataMask; rfl

theorem mask_cons (b : Nat) (bs : List Nat) :
    pushDataMask (b :: bs) =
      if isPush b then
        false :: (List.replicate (min (b - 0x5f) bs.length) true ++ pushDataMask (bs.drop (b - 0x5f)))
      else false :: pushDataMask bs := by
  rw [pushDataMask]

/-- What each stream entry may be, given the byte at its offset and whether the EVM scan
calls that byte push data. -/
def Entry (b : Nat) (m : Bool) (ins : Instr) : Prop :=
  (m = true → ins = .nop ∨ ins = .invalid b) ∧
  (m = false → (isPush b = true → (∃ d, ins = .push (b - 0x5f) d) ∨ ins = .invalid b) ∧
               (isPush b = false → isKnown b = true → ins = .op b) ∧
               (isPush b = false → isKnown b = false → ins = .invalid b))

theorem spec_entries (bs : List Nat) : All3 Entry bs (pushDataMask bs) (spec bs) := by
  induction bs using spec.induct with
  | case1 => rw [mask_nil, spec_nil]; exact All3.nil
  | case2 b bs hp hle ih =>
    rw [spec_cons, mask_cons]
    simp only [hp, hle, if_true, Nat.min_eq_left hle]
    refine All3.cons ?_ ?_
    · refine ⟨by simp, fun _ => ⟨fun _ => Or.inl ⟨_, rfl⟩, by simp [hp], by simp [hp]⟩⟩
    · have hl : (bs.take (b - 0x5f)).length = b - 0x5f := by simp; omega
      have := all3_replicate (R := Entry) true Instr.nop
        (fun a => ⟨fun _ => Or.inl rfl, by simp⟩) (bs.take (b - 0x5f))
      rw [hl] at this
      have h2 := All3.append this ih
      rwa [List.take_append_drop] at h2
  | case3 b bs hp hle =>
    have hmin : min (b - 0x5f) bs.length = bs.length := by omega
    have hdrop : bs.drop (b - 0x5f) = [] := by simp; omega
    rw [spec_cons, mask_cons]
    simp only [hp, hle, if_true, if_false, hmin, hdrop, mask_nil, List.append_nil]
    refine All3.cons ?_ ?_
    · refine ⟨by simp, fun _ => ⟨fun _ => Or.inr rfl, by simp [hp], by simp [hp]⟩⟩
    · exact all3_map true Instr.invalid (fun a => ⟨fun _ => Or.inr rfl, by simp⟩) bs
  | case4 b bs hp hk ih =>
    have hp' : isPush b = false := by simpa using hp
    rw [spec_cons, mask_cons]
    simp only [hp', hk, if_true]
    exact All3.cons ⟨by simp, fun _ => ⟨by simp [hp'], fun _ _ => rfl, by simp [hk]⟩⟩ ih
  | case5 b bs hp hk ih =>
    have hp' : isPush b = false := by simpa using hp
    have hk' : isKnown b = false := by simpa using hk
    rw [spec_cons, mask_cons]
    simp only [hp', hk']
    exact All3.cons ⟨by simp, fun _ => ⟨by simp [hp'], by simp [hk'], fun _ _ => rfl⟩⟩ ih

end SLE.Disasm
