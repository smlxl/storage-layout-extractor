import SLE.Lemmas.FoldBridge
import SLE.Lemmas.MachineFacts
import SLE.Lemmas.VMControl
/-!
# Whole-path simulation (C07 / C08): from one instruction to whole paths, with control flow

Two machines: the model of the symbolic machine (`SLE.VM.step`, `execOp`) and the concrete
reference EVM (`SLE.EVM.explore`).  `EvmSim.step_sim_partial` relates one data instruction;
this file relates whole paths.

The reference machine is read as a small-step relation `RStep` on `(pc, EVM.CS)` (both branches at
every JUMPI; every `RStep` is one unfolding of `EVM.explore {}`), with `RReach` for reachability from
`(0, {})`.  `Outcome` says what one instruction of a program in scope means on the reference side.
`Inv` is the invariant `step` keeps: every queued thread is `Rel`-related to a reference-reachable
configuration at its offset, every stored thread is so up to the operands its last instruction
popped (`Weak`), and every offset executed is reference-reachable.  The side conditions of the
simulation (`SideOK`: literal storage keys, small literal memory offsets, jump operands on which
folding and evaluation agree) hold by themselves in programs where each such instruction directly
follows a PUSH (`PushGuarded`).
-/
namespace SLE.PathSim
open SLE SLE.SV SLE.VM SLE.EvalC SLE.EvmSim SLE.MachineFacts
open SLE.Disasm (Instr)

/-! ## the instruction stream, offset by offset -/

/-- no placeholder at offset `j` (or `j` is past the end) -/
def NotNop (code : List Instr) (j : Nat) : Prop := code[j]? ≠ some .nop

/-- The stream entry at offset `i` is the single-byte opcode `b`.  `next` (the entry behind it is
no placeholder) is what lets a thread that moves on by one offset stand again on an instruction
the reference machine executes: it re-establishes `SledTo` with an empty sled. -/
structure OpAt (bs : List Nat) (code : List Instr) (i b : Nat) : Prop where
  byte : bs[i]? = some b
  notPush : Disasm.isPush b = false
  next : NotNop code (i + 1)

/-- The stream entry at offset `i` is a PUSHn with immediate `dta`: `n` placeholders follow, and
behind them (`next`) stands an entry that is no placeholder. -/
structure PushAt (bs : List Nat) (code : List Instr) (i n : Nat) (dta : List Nat) : Prop where
  byte : bs[i]? = some (0x5f + n)
  pos : 1 ≤ n ∧ n ≤ 32
  fits : i + n < bs.length
  data : dta = (bs.drop (i + 1)).take n
  nops : ∀ j, i < j → j ≤ i + n → code[j]? = some .nop
  next : NotNop code (i + n + 1)

theorem OpAt.shift {bs : List Nat} {code : List Instr} {i b : Nat} (pre' : List Nat)
    (pre : List Instr) (hk : pre.length = pre'.length) (h : OpAt bs code i b) :
    OpAt (pre' ++ bs) (pre ++ code) (pre'.length + i) b := by
  refine ⟨?_, h.notPush, ?_⟩
  · rw [List.getElem?_append_right (by omega)]
    have : pre'.length + i - pre'.length = i := by omega
    rw [this]; exact h.byte
  · unfold NotNop
    rw [List.getElem?_append_right (by omega)]
    have : pre'.length + i + 1 - pre.length = i + 1 := by omega
    rw [this]; exact h.next

theorem PushAt.shift {bs : List Nat} {code : List Instr} {i n : Nat} {dta : List Nat}
    (pre' : List Nat) (pre : List Instr) (hk : pre.length = pre'.length)
    (h : PushAt bs code i n dta) :
    PushAt (pre' ++ bs) (pre ++ code) (pre'.length + i) n dta := by
  refine ⟨?_, h.pos, ?_, ?_, ?_, ?_⟩
  · rw [List.getElem?_append_right (by omega)]
    have : pre'.length + i - pre'.length = i := by omega
    rw [this]; exact h.byte
  · have := h.fits
    simp only [List.length_append]; omega
  · rw [h.data]
    have e : (pre' ++ bs).drop (pre'.length + i + 1) = bs.drop (i + 1) := by
      rw [List.drop_append, List.drop_eq_nil_of_le (as := pre') (by omega)]
      simp only [List.nil_append]
      congr 1; omega
    rw [e]
  · intro j h1 h2
    rw [List.getElem?_append_right (by omega)]
    exact h.nops (j - pre.length) (by omega) (by omega)
  · unfold NotNop
    rw [List.getElem?_append_right (by omega)]
    have : pre'.length + i + n + 1 - pre.length = i + n + 1 := by omega
    rw [this]; exact h.next

/-- what the stream entry `ins` at offset `i` says about the bytes -/
def EntryAt (bs : List Nat) (code : List Instr) (i : Nat) : Instr → Prop
  | .op b => OpAt bs code i b
  | .push n dta => PushAt bs code i n dta
  | _ => True

theorem EntryAt.shift {bs : List Nat} {code : List Instr} {i : Nat} {ins : Instr} (pre' : List Nat)
    (pre : List Instr) (hk : pre.length = pre'.length) (h : EntryAt bs code i ins) :
    EntryAt (pre' ++ bs) (pre ++ code) (pre'.length + i) ins := by
  cases ins with
  | op b => exact OpAt.shift pre' pre hk h
  | push n dta => exact PushAt.shift pre' pre hk h
  | nop => trivial
  | invalid b => trivial

theorem spec_head_notNop (bs : List Nat) : NotNop (Disasm.spec bs) 0 := by
  unfold NotNop
  cases bs with
  | nil => simp [Disasm.spec_nil]
  | cons b bs =>
    rw [Disasm.spec_cons]
    split
    · split <;> simp
    · split <;> simp

/-- a single-byte entry in front of a stream whose entries are described -/
theorem EntryAt.cons_single {b : Nat} {bs : List Nat} {hd : Instr}
    (hspec : Disasm.spec (b :: bs) = [hd] ++ Disasm.spec bs)
    (hhd : (hd = .op b ∧ Disasm.isPush b = false) ∨ hd = .invalid b)
    (ih : ∀ i ins, (Disasm.spec bs)[i]? = some ins → EntryAt bs (Disasm.spec bs) i ins) :
    ∀ i ins, (Disasm.spec (b :: bs))[i]? = some ins →
      EntryAt (b :: bs) (Disasm.spec (b :: bs)) i ins := by
  intro i ins hi
  cases i with
  | zero =>
    rw [hspec] at hi
    simp only [List.cons_append, List.nil_append, List.getElem?_cons_zero,
      Option.some.injEq] at hi
    subst hi
    rcases hhd with ⟨rfl, hp'⟩ | rfl
    · refine ⟨by simp, hp', ?_⟩
      unfold NotNop
      rw [hspec]; simp
      exact spec_head_notNop bs
    · trivial
  | succ i' =>
    have hi' : (Disasm.spec bs)[i']? = some ins := by rw [hspec] at hi; simpa using hi
    have := (ih i' ins hi').shift [b] [hd] rfl
    rw [← hspec] at this
    rwa [show i' + 1 = [b].length + i' by simp; omega]

/-- The head of a block `PUSHn, n placeholders`, followed by a stream that does not start with a
placeholder. -/
theorem PushAt.head {n : Nat} (hn : 1 ≤ n ∧ n ≤ 32) {bs : List Nat} (hle : n ≤ bs.length)
    {rest : List Instr} (hrest : NotNop rest 0) :
    PushAt ((0x5f + n) :: bs) ((Instr.push n (bs.take n) :: List.replicate n Instr.nop) ++ rest)
      0 n (bs.take n) := by
  refine ⟨rfl, hn, ?_, ?_, ?_, ?_⟩
  · simp only [List.length_cons]; omega
  · simp
  · intro j h1 h2
    obtain ⟨j, rfl⟩ := Nat.exists_eq_succ_of_ne_zero (Nat.ne_of_gt h1)
    rw [List.cons_append, List.getElem?_cons_succ,
      List.getElem?_append_left (by simp only [List.length_replicate]; omega),
      List.getElem?_replicate, if_pos (by omega)]
  · unfold NotNop at hrest ⊢
    rw [List.getElem?_append_right (by simp)]
    simpa using hrest

/-- The stream is made of blocks: a PUSHn with its `n` placeholders, a single-byte entry, or (a PUSH
cut short by the end of the code) `invalid` entries to the end.  An entry inside the first block
is read off `spec_cons`; one behind it is an entry of the stream of the remaining bytes, shifted. -/
theorem spec_struct (bs : List Nat) : ∀ i ins,
    (Disasm.spec bs)[i]? = some ins → EntryAt bs (Disasm.spec bs) i ins := by
  induction bs using Disasm.spec.induct with
  | case1 => intro i ins hi; simp [Disasm.spec_nil] at hi
  | case2 b bs hp hle ih =>
    intro i ins hi
    have hb := Disasm.isPush_bounds hp
    obtain ⟨n, rfl⟩ : ∃ n, b = 0x5f + n := ⟨b - 0x5f, by omega⟩
    rw [Nat.add_sub_cancel_left] at hb hle ih
    have hspec : Disasm.spec ((0x5f + n) :: bs) =
        (Instr.push n (bs.take n) :: List.replicate n Instr.nop) ++ Disasm.spec (bs.drop n) := by
      rw [Disasm.spec_cons]; simp [hp, hle]
    rw [hspec] at hi ⊢
    clear hspec hp
    have hk : (Instr.push n (bs.take n) :: List.replicate n Instr.nop).length =
        ((0x5f + n) :: bs.take n).length := by
      simp only [List.length_cons, List.length_replicate, List.length_take]; omega
    by_cases hin : i ≤ n
    · rw [List.getElem?_append_left (by simp only [List.length_cons, List.length_replicate]; omega)]
        at hi
      cases i with
      | succ j =>
        simp only [List.getElem?_cons_succ, List.getElem?_replicate] at hi
        split at hi <;> cases hi
        trivial
      | zero =>
        cases Option.some.inj hi
        exact PushAt.head hb hle (spec_head_notNop _)
    · obtain ⟨i', rfl⟩ : ∃ i', i = ((0x5f + n) :: bs.take n).length + i' :=
        ⟨i - (n + 1), by simp only [List.length_cons, List.length_take]; omega⟩
      rw [← hk, List.getElem?_append_right (Nat.le_add_right ..), Nat.add_sub_cancel_left] at hi
      have := (ih i' ins hi).shift _ _ hk
      rwa [List.cons_append, List.take_append_drop] at this
  | case3 b bs hp hle =>
    intro i ins hi
    rw [Disasm.spec_cons] at hi
    simp only [hp, hle, if_true, if_false, ← List.map_cons, List.getElem?_map,
      Option.map_eq_some_iff] at hi
    obtain ⟨_, _, rfl⟩ := hi
    trivial
  | case4 b bs hp hk ih =>
    have hp' : Disasm.isPush b = false := by simpa using hp
    exact EntryAt.cons_single (by simp [Disasm.spec_cons, hp', hk]) (Or.inl ⟨rfl, hp'⟩) ih
  | case5 b bs hp hk ih =>
    have hp' : Disasm.isPush b = false := by simpa using hp
    have hk' : Disasm.isKnown b = false := by simpa using hk
    exact EntryAt.cons_single (by simp [Disasm.spec_cons, hp', hk']) (Or.inr rfl) ih

/-! ## the reference machine as a small-step relation -/

/-- a reference configuration: program counter (byte offset) and concrete state -/
abbrev Conf := Nat × EVM.CS

/-- `EVM.explore` records the offset it executes -/
def visit (pc : Nat) (s : EVM.CS) : EVM.CS := { s with visited := s.visited ++ [pc] }

/-- the instruction the reference machine reads at `pc`: a PUSHn with its immediate (zero-padded
past the end of the code, as in `EVM.explore`), or a single-byte opcode -/
def decode (code : Array Nat) (pc : Nat) : Instr :=
  if 0x60 ≤ code[pc]! ∧ code[pc]! ≤ 0x7f then
    .push (code[pc]! - 0x5f) (pushBytes code pc (code[pc]! - 0x5f))
  else .op code[pc]!

/-- where `EVM.explore` continues after a non-control instruction -/
def nextPc (code : Array Nat) (pc : Nat) : Nat :=
  if 0x60 ≤ code[pc]! ∧ code[pc]! ≤ 0x7f then pc + 1 + (code[pc]! - 0x5f) else pc + 1

/-- One step of the reference machine, read off `EVM.explore {}` (no quirks): the data
instructions covered by `refStep` (PUSH1..32, DUP, SWAP, POP, PC, CODESIZE, ISZERO, NOT, the binary
ALU opcodes of `aluOk`, MLOAD, MSTORE, SLOAD, SSTORE), PUSH0, JUMPDEST, JUMP, and JUMPI with BOTH
continuations whatever the condition.  Halting opcodes, errors (underflow, overflow, bad jump) and
opcodes outside that set have no successor. -/
inductive RStep (code : Array Nat) (data : List Nat) : Conf → Conf → Prop
  | data {pc : Nat} {s s' : EVM.CS} (hpc : pc < code.size)
      (h : refStep pc code.size (decode code pc) (visit pc s) = .ok s') :
      RStep code data (pc, s) (nextPc code pc, s')
  | push0 {pc : Nat} {s s' : EVM.CS} (hpc : pc < code.size) (hb : code[pc]! = 0x5f)
      (h : EVM.pushStack (visit pc s) 0 = some s') : RStep code data (pc, s) (pc + 1, s')
  | jumpdest {pc : Nat} {s : EVM.CS} (hpc : pc < code.size) (hb : code[pc]! = 0x5b) :
      RStep code data (pc, s) (pc + 1, visit pc s)
  | jump {pc : Nat} {s : EVM.CS} {t : Nat} {r : List Nat} (hpc : pc < code.size)
      (hb : code[pc]! = 0x56) (hs : s.stack = t :: r) (hv : EVM.validDest code data t = true) :
      RStep code data (pc, s) (t, { visit pc s with stack := r })
  | jumpiTaken {pc : Nat} {s : EVM.CS} {t c : Nat} {r : List Nat} (hpc : pc < code.size)
      (hb : code[pc]! = 0x57) (hs : s.stack = t :: c :: r)
      (hv : EVM.validDest code data t = true) :
      RStep code data (pc, s) (t, { visit pc s with stack := r })
  | jumpiFall {pc : Nat} {s : EVM.CS} {t c : Nat} {r : List Nat} (hpc : pc < code.size)
      (hb : code[pc]! = 0x57) (hs : s.stack = t :: c :: r) :
      RStep code data (pc, s) (pc + 1, { visit pc s with stack := r })

inductive RReach (code : Array Nat) (data : List Nat) : Conf → Prop
  | init : RReach code data (0, {})
  | step {a b : Conf} : RReach code data a → RStep code data a b → RReach code data b

theorem rel_visit (d : TData) (pc : Nat) (s : EVM.CS) : Rel d (visit pc s) ↔ Rel d s := Iff.rfl

theorem rel_forkPoint (d : TData) (fp : Nat) (s : EVM.CS) :
    Rel { d with forkPoint := fp } s ↔ Rel d s := Iff.rfl

theorem rel_record (d : TData) (v : SV) (s : EVM.CS) : Rel (record d v) s ↔ Rel d s := Iff.rfl

/-! ### `RStep` is `EVM.explore`, one unfolding at a time -/

theorem beVal_foldl_lt : ∀ (l : List Nat) (acc : Nat), (∀ x ∈ l, x < 256) →
    l.foldl (fun a b => a * 256 + b) acc < (acc + 1) * 256 ^ l.length
  | [], acc, _ => by simp
  | x :: l, acc, h => by
    have hx : x < 256 := h x (by simp)
    have ih := beVal_foldl_lt l (acc * 256 + x) (fun y hy => h y (by simp [hy]))
    simp only [List.foldl_cons, List.length_cons]
    calc _ < (acc * 256 + x + 1) * 256 ^ l.length := ih
      _ ≤ ((acc + 1) * 256) * 256 ^ l.length := Nat.mul_le_mul_right _ (by omega)
      _ = (acc + 1) * 256 ^ (l.length + 1) := by rw [Nat.pow_succ, Nat.mul_assoc, Nat.mul_comm 256]

theorem pushBytes_beVal_lt (code : Array Nat) (hb : ∀ i, i < code.size → code[i]! < 256)
    (pc n : Nat) (hn : n ≤ 32) : beVal (pushBytes code pc n) < 2 ^ 256 := by
  have h1 : ∀ x ∈ pushBytes code pc n, x < 256 := by
    intro x hx
    simp only [pushBytes, List.mem_map, List.mem_range] at hx
    obtain ⟨i, _, rfl⟩ := hx
    split
    · exact hb _ ‹_›
    · omega
  have h2 := beVal_foldl_lt _ 0 h1
  have h3 : (pushBytes code pc n).length = n := by simp [pushBytes]
  rw [h3] at h2
  have h4 : 256 ^ n ≤ 256 ^ 32 := Nat.pow_le_pow_right (by omega) hn
  have h5 : (256 : Nat) ^ 32 = 2 ^ 256 := by decide
  unfold beVal
  omega

/-- every step of `RStep` is one unfolding of `EVM.explore {}`: whatever the explorer reports from
the successor configuration, it reports from the predecessor with one more unit of fuel -/
theorem explore_RStep {code : Array Nat} {data : List Nat}
    (hbytes : ∀ i, i < code.size → code[i]! < 256) {a b : Conf} (h : RStep code data a b)
    (fuel : Nat) :
    ∀ x ∈ EVM.explore {} code data fuel b.1 b.2, x ∈ EVM.explore {} code data (fuel + 1) a.1 a.2 := by
  obtain ⟨pc, s⟩ := a
  obtain ⟨pc', s'⟩ := b
  intro x hx
  dsimp only at hx ⊢
  cases h with
  | data hpc h =>
    unfold decode at h
    unfold nextPc at hx
    split at h
    · rename_i hp
      rw [if_pos hp] at hx
      rw [explore_refStep_push code data fuel pc s _ hpc rfl hp pc code.size
        (pushBytes_beVal_lt code hbytes pc _ (by omega))]
      show x ∈ exploreAfter code data fuel _ _ (refStep pc code.size _ (visit pc s))
      rw [h]
      exact hx
    · rename_i hp
      rw [if_neg hp] at hx
      have hs : code[pc]! ∈ scopeOps ∨ (0x80 ≤ code[pc]! ∧ code[pc]! ≤ 0x9f) :=
        Decidable.by_contra fun hc => by rw [refStep_unsupported _ _ _ _ hc] at h; cases h
      rw [explore_refStep code data fuel pc s _ hpc rfl hs]
      show x ∈ exploreAfter code data fuel _ _ (refStep pc code.size _ (visit pc s))
      rw [h]
      exact hx
  | push0 hpc hb h =>
    unfold visit at h
    rw [explore_push0 _ code data fuel pc s hpc hb, h]
    exact hx
  | jumpdest hpc hb =>
    rw [explore_jumpdest _ code data fuel pc s hpc hb]
    exact hx
  | jump hpc hb hs hv =>
    rw [explore_jump _ code data fuel pc s hpc hb, hs]
    show x ∈ if EVM.validDest code data pc' = true then _ else _
    rw [if_pos hv]
    exact hx
  | jumpiTaken hpc hb hs hv =>
    rw [explore_jumpi _ code data fuel pc s hpc hb, hs]
    show x ∈ (if EVM.validDest code data pc' = true then _ else _) ++ _
    rw [if_pos hv]
    exact List.mem_append_left _ hx
  | jumpiFall hpc hb hs =>
    rw [explore_jumpi _ code data fuel pc s hpc hb, hs]
    exact List.mem_append_right _ hx

/-- Whatever `EVM.explore {}` reports from a configuration that `RStep`
reaches from `(0, {})`, it reports from `(0, {})` itself given enough fuel: the paths of `RStep`
are paths of the reference explorer. -/
theorem explore_sound_for_RStep {code : Array Nat} {data : List Nat}
    (hbytes : ∀ i, i < code.size → code[i]! < 256) {c : Conf} (h : RReach code data c) :
    ∀ fuel, ∀ x ∈ EVM.explore {} code data fuel c.1 c.2,
      ∃ fuel', x ∈ EVM.explore {} code data fuel' 0 {} := by
  induction h with
  | init => exact fun fuel x hx => ⟨fuel, hx⟩
  | step _ hs ih => exact fun fuel x hx => ih (fuel + 1) x (explore_RStep hbytes hs fuel x hx)

/-! ## the program -/

structure Prog (bytes : List Nat) (code : List Instr) : Prop where
  lt256 : ∀ b ∈ bytes, b < 256
  len : bytes.length < 2 ^ 32
  dis : Disasm.disasm bytes = .ok code

/-- the reference machine's code array -/
abbrev arr (bytes : List Nat) : Array Nat := bytes.toArray
/-- the reference machine's push-data offsets, as `EVM.paths` computes them -/
abbrev dat (bytes : List Nat) : List Nat := EVM.pushData bytes.toArray (bytes.length + 1) 0 []

section prog
variable {bytes : List Nat} {code : List Instr}

theorem Prog.ne_nil (H : Prog bytes code) : bytes ≠ [] := by
  intro h
  have := H.dis
  rw [h] at this
  simp [Disasm.disasm] at this

theorem Prog.code_eq (H : Prog bytes code) : code = Disasm.spec bytes := Disasm.disasm_ok H.dis

theorem Prog.length_eq (H : Prog bytes code) : code.length = bytes.length := by
  rw [H.code_eq]; exact Disasm.spec_length _

theorem Prog.opAt (H : Prog bytes code) {i b : Nat} (h : code[i]? = some (.op b)) :
    OpAt bytes code i b := by
  have e := H.code_eq
  subst e
  exact spec_struct bytes i _ h

theorem Prog.pushAt (H : Prog bytes code) {i n : Nat} {dta : List Nat}
    (h : code[i]? = some (.push n dta)) : PushAt bytes code i n dta := by
  have e := H.code_eq
  subst e
  exact spec_struct bytes i _ h

theorem Prog.notNop_zero (H : Prog bytes code) : NotNop code 0 := by
  rw [H.code_eq]; exact spec_head_notNop _

theorem Prog.validDest_iff (H : Prog bytes code) (t : Nat) :
    EVM.validDest (arr bytes) (dat bytes) t = true ↔ code[t]? = some (.op 0x5b) :=
  validDest_iff_stream_jumpdest_nat bytes code H.lt256 H.ne_nil H.len H.dis t

theorem arr_get {i b : Nat} (h : bytes[i]? = some b) : (arr bytes)[i]! = b := by
  obtain ⟨hlt, rfl⟩ := List.getElem?_eq_some_iff.mp h
  simp [arr, hlt]

theorem lt_of_get {i b : Nat} (h : bytes[i]? = some b) : i < (arr bytes).size := by
  obtain ⟨hlt, _⟩ := List.getElem?_eq_some_iff.mp h
  simpa [arr] using hlt

theorem decode_op {i b : Nat} (h : OpAt bytes code i b) :
    decode (arr bytes) i = .op b ∧ nextPc (arr bytes) i = i + 1 ∧ (arr bytes)[i]! = b ∧
      i < (arr bytes).size := by
  have hb := arr_get h.byte
  have hnp : ¬ (0x60 ≤ b ∧ b ≤ 0x7f) := by
    have := h.notPush
    unfold Disasm.isPush at this
    simpa using this
  refine ⟨?_, ?_, hb, lt_of_get h.byte⟩
  · unfold decode; rw [hb, if_neg hnp]
  · unfold nextPc; rw [hb, if_neg hnp]

theorem pushBytes_eq {i n : Nat} (h : i + n < bytes.length) :
    pushBytes (arr bytes) i n = (bytes.drop (i + 1)).take n := by
  unfold pushBytes
  apply List.ext_getElem
  · simp; omega
  · intro k h1 h2
    simp at h1
    have : i + 1 + k < bytes.length := by omega
    simp [this]

theorem decode_push {i n : Nat} {dta : List Nat} (h : PushAt bytes code i n dta) :
    decode (arr bytes) i = .push n dta ∧ nextPc (arr bytes) i = i + 1 + n ∧
      i < (arr bytes).size := by
  have hb := arr_get h.byte
  have hp : 0x60 ≤ 0x5f + n ∧ 0x5f + n ≤ 0x7f := by have := h.pos; omega
  have hn : 0x5f + n - 0x5f = n := by omega
  refine ⟨?_, ?_, lt_of_get h.byte⟩
  · unfold decode; rw [hb, if_pos hp, hn, pushBytes_eq h.fits, h.data]
  · unfold nextPc; rw [hb, if_pos hp, hn]

end prog

/-! ## what one instruction leaves behind -/

def dropK (k : Nat) (s : EVM.CS) : EVM.CS := { s with stack := s.stack.drop k }

/-- the relation of a thread that has ended: storage and memory agree with the reference state,
the stack agrees with what is left of the reference stack after the operands the last instruction
consumed (the reference machine does not pop when it halts or fails) -/
def Weak (d : TData) (s : EVM.CS) : Prop := ∃ k, Rel d (dropK k s)

theorem LRel_drop : ∀ {vs : List SV} {ns : List Nat} (k : Nat), LRel vs ns →
    LRel (vs.drop k) (ns.drop k)
  | _, _, 0, h => by simpa using h
  | [], [], _ + 1, _ => by simp
  | _ :: vs, _ :: ns, k + 1, h => by simpa using LRel_drop (vs := vs) (ns := ns) k h.2
  | [], _ :: _, _ + 1, h => by simp at h
  | _ :: _, [], _ + 1, h => by simp at h

/-- `d'` is `d` with some stack entries popped; storage unchanged; memory reads the same -/
def Shrunk (d d' : TData) : Prop :=
  ∃ k, d'.stack = d.stack.drop k ∧ d'.stK = d.stK ∧ ∀ k', cellVal d'.memC k' = cellVal d.memC k'

theorem Shrunk.refl (d : TData) : Shrunk d d := ⟨0, by simp, rfl, fun _ => rfl⟩

theorem Shrunk.trans {a b c : TData} (h1 : Shrunk a b) (h2 : Shrunk b c) : Shrunk a c := by
  obtain ⟨k1, s1, t1, m1⟩ := h1
  obtain ⟨k2, s2, t2, m2⟩ := h2
  refine ⟨k1 + k2, ?_, by rw [t2, t1], fun k' => by rw [m2, m1]⟩
  rw [s2, s1, List.drop_drop]

theorem Shrunk.record {a b : TData} (h : Shrunk a b) (v : SV) : Shrunk a (record b v) := h

theorem Shrunk.rel {d d' : TData} {s : EVM.CS} (hR : Rel d s) (h : Shrunk d d') : Weak d' s := by
  obtain ⟨k, hs, ht, hm⟩ := h
  obtain ⟨hlen, hst, hsto, hmem⟩ := hR
  refine ⟨k, ?_, ?_, ?_, ?_⟩
  · rw [hs, List.length_drop]; omega
  · rw [hs]; exact LRel_drop k hst
  · rw [ht]; exact hsto
  · intro k'; rw [hm]; exact hmem k'

theorem Rel.weak {d : TData} {s : EVM.CS} (h : Rel d s) : Weak d s := ⟨0, by simpa [dropK] using h⟩

theorem pop_shrunk {d d' : TData} {v : SV} (h : pop d = .ok (v, d')) : Shrunk d d' := by
  unfold pop at h
  split at h
  · cases h
  · rename_i v' r hs
    cases h
    exact ⟨1, by simp [hs], rfl, fun _ => rfl⟩

theorem popN_shrunk : ∀ (n : Nat) (d : TData) (acc : List SV),
    (∀ e d', popN n d acc = .error (e, d') → Shrunk d d') ∧
    (∀ args d', popN n d acc = .ok (args, d') → Shrunk d d')
  | 0, d, acc => by
    constructor
    · intro e d' h; simp [popN] at h
    · intro args d' h
      simp only [popN, Except.ok.injEq, Prod.mk.injEq] at h
      rw [← h.2]; exact Shrunk.refl d
  | n + 1, d, acc => by
    cases hp : pop d with
    | error e =>
      constructor
      · intro e' d' h
        simp only [popN, hp, Except.error.injEq, Prod.mk.injEq] at h
        rw [← h.2]; exact Shrunk.refl d
      · intro args d' h; simp [popN, hp] at h
    | ok p =>
      obtain ⟨v, d1⟩ := p
      have h1 := pop_shrunk hp
      have ih := popN_shrunk n d1 (v :: acc)
      constructor
      · intro e d' h
        simp only [popN, hp] at h
        exact h1.trans (ih.1 e d' h)
      · intro args d' h
        simp only [popN, hp] at h
        exact h1.trans (ih.2 args d' h)

/-- the output of an instruction that does not halt: it never kills the thread, and if it fails
it leaves a shrunk state behind -/
def Fine (d : TData) (o : OpOut) : Prop := o.kill = false ∧ ∀ e, o.err = some e → Shrunk d o.d

theorem fine_fail {d d' : TData} (h : Shrunk d d') (ctr : Nat) (e : XErr) : Fine d (fail d' ctr e) :=
  ⟨rfl, fun _ _ => h⟩

theorem fine_pushOut {d d1 : TData} (h : Shrunk d d1) (ctr : Nat) (v : SV) :
    Fine d (pushOut d1 ctr v) := by
  rw [pushOut_eq]
  split
  · exact fine_fail h _ _
  · exact ⟨rfl, fun e he => by cases he⟩

theorem fine_ok (d d' : TData) (ctr : Nat) : Fine d { d := d', ctr := ctr } :=
  ⟨rfl, fun e he => by cases he⟩

theorem fine_tplStep (c : Ctx) (d : TData) (ctr n : Nat) (tpl : SV) :
    Fine d (tplStep c d ctr (some (n, tpl))) := by
  simp only [tplStep]
  cases hp : popN n d [] with
  | error p =>
    obtain ⟨e, d'⟩ := p
    exact fine_fail ((popN_shrunk n d []).1 e d' hp) _ _
  | ok p =>
    obtain ⟨args, d1⟩ := p
    exact fine_pushOut ((popN_shrunk n d []).2 args d1 hp) _ _

theorem execOp_push0 (c : Ctx) (code : List Instr) (d : TData) (ctr : Nat) :
    execOp c code (.op 0x5f) d ctr = pushOut d (ctr + 1) (buildKnown c ctr 0#256).1 := by
  have : execOp c code (.op 0x5f) d ctr =
      tplStep c d ctr (some (0, .node .knownData [0] [] 0)) := rfl
  rw [this]
  simp [tplStep, popN, instantiate, instantiate.go, buildKnown, build]

theorem memGetC_shrunk (d : TData) (k : Nat) : Shrunk d (memGetC d k).2 := by
  obtain ⟨_, h2, h3, h4⟩ := memGetC_rel d k
  exact ⟨0, by simpa using h2, h3, h4⟩

theorem memGetS_shrunk (d : TData) (off : SV) : Shrunk d (memGetS d off).2 := by
  unfold memGetS
  split
  · exact Shrunk.refl d
  · exact ⟨0, by simp, rfl, fun _ => rfl⟩

theorem memLoad_shrunk (d : TData) (off : SV) : Shrunk d (memLoad d off).2 := by
  unfold memLoad
  dsimp only
  split
  · exact memGetC_shrunk ..
  · exact memGetS_shrunk ..

theorem stLoad_stack (d : TData) (key : SV) : (stLoad d key).2.stack = d.stack := by
  unfold stLoad
  dsimp only
  split
  · rfl
  · split <;> rfl

def DataOp (b : Nat) : Prop := (0x80 ≤ b ∧ b ≤ 0x9f) ∨ b ∈ scopeOps

def DataIns : Instr → Prop
  | .push _ _ => True
  | .op b => DataOp b
  | _ => False

theorem fine_popN2 (d : TData) (ctr : Nat) (f : SV → SV → TData → TData) :
    Fine d (match popN 2 d [] with
       | .error (e, d') => fail d' ctr e
       | .ok ([a, b], d1) => { d := f a b d1, ctr := ctr }
       | .ok (_, d1) => fail d1 ctr .noSuchStackFrame) := by
  split
  · rename_i e d' hp
    exact fine_fail ((popN_shrunk 2 d []).1 e d' hp) _ _
  · exact fine_ok _ _ _
  · rename_i args d1 _ hp
    exact fine_fail ((popN_shrunk 2 d []).2 _ d1 hp) _ _

theorem data_fine (c : Ctx) (code : List Instr) (ins : Instr) (d : TData) (ctr : Nat)
    (hD : DataIns ins ∨ ins = .op 0x5f) (hlen : d.stack.length ≤ 1024) :
    Fine d (execOp c code ins d ctr) := by
  by_cases h5f : ins = .op 0x5f
  · subst h5f; rw [execOp_push0]; exact fine_pushOut (Shrunk.refl d) _ _
  have hD : DataIns ins := hD.resolve_right h5f
  cases ins with
  | nop => exact hD.elim
  | invalid b => exact hD.elim
  | push n dta => rw [execOp_push]; exact fine_pushOut (Shrunk.refl d) _ _
  | op b =>
    rcases hD with hb | hb
    · by_cases h8 : b ≤ 0x8f
      · rw [execOp_dup c code b d ctr ⟨hb.1, h8⟩]
        split
        · exact fine_pushOut (Shrunk.refl d) _ _
        · exact fine_fail (Shrunk.refl d) _ _
      · rw [execOp_swap c code b d ctr ⟨by omega, hb.2⟩]
        split
        · exact fine_ok _ _ _
        · exact fine_fail (Shrunk.refl d) _ _
    · rcases scopeOps_cases hb with rfl | rfl | rfl | h | rfl | rfl | rfl | rfl | h
      · rw [execOp_pop]
        split
        · exact fine_ok _ _ _
        · exact fine_fail (Shrunk.refl d) _ _
      · rw [execOp_pc]; exact fine_pushOut (Shrunk.refl d) _ _
      · rw [execOp_codesize]; exact fine_pushOut (Shrunk.refl d) _ _
      · rcases h with rfl | rfl
        · rw [unSpec_iszero.exec]; exact fine_tplStep ..
        · rw [unSpec_not.exec]; exact fine_tplStep ..
      · cases hs : d.stack with
        | nil => rw [execOp_mload_stack, hs]; exact fine_fail (Shrunk.refl d) _ _
        | cons off rest =>
          rw [execOp_mload_stack, hs]
          refine fine_pushOut (Shrunk.trans ?_ (memLoad_shrunk _ off)) _ _
          exact ⟨1, by simp [hs], rfl, fun _ => rfl⟩
      · rw [execOp_mstore_eq]; exact fine_popN2 d ctr (fun a b d1 => memStore d1 a b true)
      · cases hs : d.stack with
        | nil => rw [execOp_sload_stack, hs]; exact fine_fail (Shrunk.refl d) _ _
        | cons key rest =>
          rw [execOp_sload_stack, hs]
          dsimp only
          have hl : (stLoad { d with stack := rest } key).2.stack.length + 1 ≤ 1024 := by
            rw [stLoad_stack]; simp only []; rw [hs] at hlen; simpa using hlen
          split
          · rw [pushOut_ok _ _ _ hl]; exact fine_ok _ _ _
          · rw [pushOut_ok _ _ _ hl]; exact fine_ok _ _ _
      · rw [execOp_sstore_eq]; exact fine_popN2 d ctr (fun a b d1 => stStore d1 a b)
      · obtain ⟨k, f, hk⟩ := aluSpec h
        rw [hk.exec]; exact fine_tplStep ..

/-! ## one instruction against the reference step -/

/-- from `a` a run of placeholders leads to `pc`, which is not a placeholder -/
def SledTo (code : List Instr) (a pc : Nat) : Prop :=
  a ≤ pc ∧ (∀ j, a ≤ j → j < pc → code[j]? = some .nop) ∧ NotNop code pc

theorem SledTo.here {code : List Instr} {a : Nat} (h : NotNop code a) : SledTo code a a :=
  ⟨Nat.le_refl _, fun j h1 h2 => by omega, h⟩

theorem SledTo.cases {code : List Instr} {a pc : Nat} {ins : Instr} (h : SledTo code a pc)
    (hi : code[a]? = some ins) : (ins = .nop ∧ SledTo code (a + 1) pc) ∨ (ins ≠ .nop ∧ pc = a) := by
  by_cases hlt : a < pc
  · have := h.2.1 a (Nat.le_refl _) hlt
    rw [hi] at this
    exact Or.inl ⟨by cases this; rfl, hlt, fun j ha hb => h.2.1 j (by omega) hb, h.2.2⟩
  · have hpc : pc = a := by have := h.1; omega
    exact Or.inr ⟨fun hn => by rw [hpc] at h; rw [hn] at hi; exact h.2.2 hi, hpc⟩

/-- the jump operand `k`: whenever the tool's constant folding resolves it to a constant, that
constant is the value the tree denotes -/
def TargetOK (k : SV) : Prop := ∀ w, VM.isKnown (fold k) = some w → evalSV k = some w.toNat

theorem targetOK_mkKnown (w : Word) : TargetOK (mkKnown w) := by
  intro w' h
  rw [isKnown_fold_mkKnown] at h
  cases h
  exact evalSV_mkKnown w

theorem targetOK_of_litOK {k : SV} (h : Bridge.LitOK k) : TargetOK k :=
  fun w hw => Bridge.fold_agree k h w hw

/-- side conditions of one instruction: those of the data simulation (`EvmSim.Side`: literal
storage keys, literal memory offsets below 2^64) and `TargetOK` for the operand of JUMP/JUMPI -/
def SideT (ins : Instr) (d : TData) : Prop :=
  Side ins d ∧ ((ins = .op 0x56 ∨ ins = .op 0x57) → ∀ k r, d.stack = k :: r → TargetOK k)

section outcome
variable {bytes : List Nat} {code : List Instr}

/-- What the instruction at `ip` (output `o`, thread data `d` related to `cs` before) means on
the reference side. -/
structure Outcome (bytes : List Nat) (code : List Instr) (ip : Nat) (d : TData) (cs : EVM.CS)
    (o : OpOut) : Prop where
  err : ∀ e, o.err = some e → Weak o.d cs
  kill : o.err = none → o.kill = true → Weak o.d cs
  cont : o.err = none → o.kill = false → o.jumpTo = none →
    ∃ pc' cs', RStep (arr bytes) (dat bytes) (ip, cs) (pc', cs') ∧ Rel o.d cs' ∧
      SledTo code (ip + 1) pc'
  jump : ∀ t, o.err = none → o.jumpTo = some t →
    ∃ cs1, RStep (arr bytes) (dat bytes) (ip, cs) (t, cs1) ∧
      RStep (arr bytes) (dat bytes) (t, cs1) (t + 1, visit t cs1) ∧ Rel o.d (visit t cs1) ∧
      NotNop code (t + 1)
  fork : ∀ t, o.err = none → o.forkTo = some t →
    ∃ cs2, RStep (arr bytes) (dat bytes) (ip, cs) (t, cs2) ∧ Rel o.d cs2 ∧ NotNop code t

theorem Outcome.ofFine {ip : Nat} {d : TData} {cs : EVM.CS} {o : OpOut} (hR : Rel d cs)
    (hf : Fine d o) (hnc : NoCtl o)
    (hcont : o.err = none → ∃ pc' cs', RStep (arr bytes) (dat bytes) (ip, cs) (pc', cs') ∧
      Rel o.d cs' ∧ SledTo code (ip + 1) pc') : Outcome bytes code ip d cs o where
  err := fun e he => (hf.2 e he).rel hR
  kill := fun _ hk => by rw [hf.1] at hk; cases hk
  cont := fun he _ _ => hcont he
  jump := fun t _ hj => by rw [hnc.1] at hj; cases hj
  fork := fun t _ hj => by rw [hnc.2.1] at hj; cases hj

theorem Outcome.ofHalt {ip : Nat} {d : TData} {cs : EVM.CS} {o : OpOut} (hR : Rel d cs)
    (hsh : Shrunk d o.d) (hk : o.err = none → o.kill = true) (hj : o.jumpTo = none)
    (hf : o.forkTo = none) : Outcome bytes code ip d cs o where
  err := fun _ _ => hsh.rel hR
  kill := fun _ _ => hsh.rel hR
  cont := fun he hk' _ => by rw [hk he] at hk'; cases hk'
  jump := fun t _ hj' => by rw [hj] at hj'; cases hj'
  fork := fun t _ hf' => by rw [hf] at hf'; cases hf'

theorem rPush_supported (s : EVM.CS) (v : Nat) : rPush s v ≠ .unsupported := by
  unfold rPush; split <;> simp

theorem refStep_supported (pcv csz : Nat) (ins : Instr) (s : EVM.CS) (hD : DataIns ins) :
    refStep pcv csz ins s ≠ .unsupported := by
  cases ins with
  | nop => exact hD.elim
  | invalid b => exact hD.elim
  | push n dta => exact rPush_supported _ _
  | op b =>
    rcases hD with hb | hb
    · by_cases h8 : b ≤ 0x8f
      · rw [refStep_dup pcv csz b s ⟨hb.1, h8⟩]
        split
        · exact rPush_supported _ _
        · simp
      · rw [refStep_swap pcv csz b s ⟨by omega, hb.2⟩]
        split <;> simp
    · rcases scopeOps_cases hb with rfl | rfl | rfl | h | rfl | rfl | rfl | rfl | h
      · rw [refStep_pop]; split <;> simp
      · rw [(refStep_stack_ops pcv csz s).2.2.2.2.1, ← rPush_eq]; exact rPush_supported _ _
      · rw [(refStep_stack_ops pcv csz s).2.2.2.2.2, ← rPush_eq]; exact rPush_supported _ _
      · rcases h with rfl | rfl
        · rw [unSpec_iszero.ref]; split <;> simp
        · rw [unSpec_not.ref]; split <;> simp
      · rw [refStep_mload]; split <;> simp
      · rw [refStep_mstore]; split <;> simp
      · rw [refStep_sload]; split <;> simp
      · rw [refStep_sstore]; split <;> simp
      · obtain ⟨k, f, hk⟩ := aluSpec h
        rw [hk.ref]; split <;> simp

theorem dataIns_ne_ctl {ins : Instr} (hD : DataIns ins) : ins ≠ .op 0x56 ∧ ins ≠ .op 0x57 := by
  constructor <;> intro h <;> subst h <;>
    simp [DataIns, DataOp, scopeOps, aluOk] at hD

theorem Prog.size_eq (H : Prog bytes code) : (arr bytes).size = code.length := by
  rw [H.length_eq]; simp [arr]

theorem Prog.mods (H : Prog bytes code) {ip : Nat} (hip : ip < code.length) :
    ip % 2 ^ 256 = ip ∧ code.length % 2 ^ 256 = (arr bytes).size := by
  have h1 := H.len
  have h2 := H.length_eq
  have h3 : (2 : Nat) ^ 32 < 2 ^ 256 := by decide
  rw [H.size_eq]
  exact ⟨Nat.mod_eq_of_lt (by omega), Nat.mod_eq_of_lt (by omega)⟩

theorem data_outcome (H : Prog bytes code) (cfg : Cfg) {ip : Nat} {ins : Instr}
    (hi : code[ip]? = some ins) (hD : DataIns ins) {d : TData} {cs : EVM.CS} (hR : Rel d cs)
    (hside : Side ins d) (ctr : Nat) :
    Outcome bytes code ip d cs (execOp ⟨cfg, ip, code.length⟩ code ins d ctr) := by
  have hip : ip < code.length := (List.getElem?_eq_some_iff.mp hi).1
  obtain ⟨h56, h57⟩ := dataIns_ne_ctl hD
  have hdec : decode (arr bytes) ip = ins ∧ SledTo code (ip + 1) (nextPc (arr bytes) ip) ∧
      ip < (arr bytes).size := by
    cases ins with
    | nop => exact hD.elim
    | invalid b => exact hD.elim
    | push n dta =>
      have hp := H.pushAt hi
      obtain ⟨h1, h2, h3⟩ := decode_push hp
      refine ⟨h1, ?_, h3⟩
      rw [h2]
      exact ⟨by omega, fun j ha hb => hp.nops j (by omega) (by omega),
        by have := hp.next; rwa [show ip + n + 1 = ip + 1 + n by omega] at this⟩
    | op b =>
      have hp := H.opAt hi
      obtain ⟨h1, h2, _, h3⟩ := decode_op hp
      refine ⟨h1, ?_, h3⟩
      rw [h2]; exact SledTo.here hp.next
  obtain ⟨hdec, hsl, hlt⟩ := hdec
  refine Outcome.ofFine hR (data_fine _ code ins d ctr (Or.inl hD) hR.1)
    (execOp_noCtl _ code ins d ctr h56 h57) (fun he => ?_)
  have hs := step_sim_partial ⟨cfg, ip, code.length⟩ code ins d ctr (visit ip cs) hR hside
  obtain ⟨e1, e2⟩ := H.mods hip
  simp only [e1, e2] at hs
  cases hr : refStep ip (arr bytes).size ins (visit ip cs) with
  | ok s' =>
    rw [hr] at hs
    simp only [StepSim] at hs
    exact ⟨_, s', RStep.data hlt (by rw [hdec]; exact hr), hs.2, hsl⟩
  | underflow => rw [hr] at hs; simp only [StepSim] at hs; rw [he] at hs; cases hs
  | overflow => rw [hr] at hs; simp only [StepSim] at hs; rw [he] at hs; cases hs
  | unsupported => exact absurd hr (refStep_supported _ _ ins _ hD)

theorem push0_outcome (H : Prog bytes code) (cfg : Cfg) {ip : Nat}
    (hi : code[ip]? = some (.op 0x5f)) {d : TData} {cs : EVM.CS} (hR : Rel d cs) (ctr : Nat) :
    Outcome bytes code ip d cs (execOp ⟨cfg, ip, code.length⟩ code (.op 0x5f) d ctr) := by
  have hp := H.opAt hi
  obtain ⟨_, _, hb, hlt⟩ := decode_op hp
  refine Outcome.ofFine hR (data_fine _ code _ d ctr (Or.inr rfl) hR.1)
    (execOp_noCtl _ code _ d ctr (by decide) (by decide)) (fun he => ?_)
  rw [execOp_push0] at he ⊢
  have hs := pushOut_step d (ctr + 1) (buildKnown ⟨cfg, ip, code.length⟩ ctr 0#256).1 (visit ip cs) 0
    hR (fun r hr => build_known_sound hr)
  unfold rPush at hs
  cases hps : EVM.pushStack (visit ip cs) 0 with
  | none => rw [hps] at hs; simp only [StepSim] at hs; rw [he] at hs; cases hs
  | some s' =>
    rw [hps] at hs
    simp only [StepSim] at hs
    exact ⟨_, s', RStep.push0 hlt hb hps, hs.2, SledTo.here hp.next⟩

theorem jumpdest_outcome (H : Prog bytes code) (cfg : Cfg) {ip : Nat}
    (hi : code[ip]? = some (.op 0x5b)) {d : TData} {cs : EVM.CS} (hR : Rel d cs) (ctr : Nat) :
    Outcome bytes code ip d cs (execOp ⟨cfg, ip, code.length⟩ code (.op 0x5b) d ctr) := by
  have hp := H.opAt hi
  obtain ⟨_, _, hb, hlt⟩ := decode_op hp
  have : execOp ⟨cfg, ip, code.length⟩ code (.op 0x5b) d ctr = { d := d, ctr := ctr } := rfl
  rw [this]
  exact Outcome.ofFine hR (fine_ok _ _ _) ⟨rfl, rfl, rfl⟩
    (fun _ => ⟨_, _, RStep.jumpdest hlt hb, hR, SledTo.here hp.next⟩)

/-! ### halting instructions -/

theorem memGetMany_shrunk : ∀ (ks : List Nat) (d : TData), Shrunk d (memGetMany d ks).2
  | [], d => Shrunk.refl d
  | k :: ks, d => by
    simp only [memGetMany]
    exact (memGetC_shrunk d k).trans (memGetMany_shrunk ks _)

theorem memLoadSlice_shrunk {c : Ctx} {d d' : TData} {off size v : SV}
    (h : memLoadSlice c d off size = .ok (v, d')) : Shrunk d d' := by
  unfold memLoadSlice at h
  dsimp only at h
  split at h
  · rename_i w _
    split at h
    · simp only [Except.ok.injEq, Prod.mk.injEq] at h
      rw [← h.2]; exact memGetMany_shrunk _ _
    · simp only [Except.ok.injEq] at h
      have := memGetC_shrunk d (asUsize w)
      rwa [h] at this
  · simp only [Except.ok.injEq] at h
    have := memGetS_shrunk d (fold off)
    rwa [h] at this

/-- the instructions that end a path: STOP, INVALID, RETURN, REVERT, SELFDESTRUCT, and the
stream's `invalid` entries (unassigned bytes, a PUSH cut short by the end of the code) -/
def HaltIns : Instr → Prop
  | .invalid _ => True
  | .op b => b = 0x00 ∨ b = 0xfe ∨ b = 0xf3 ∨ b = 0xfd ∨ b = 0xff
  | _ => False

theorem haltIns_ne_ctl {ins : Instr} (hD : HaltIns ins) : ins ≠ .op 0x56 ∧ ins ≠ .op 0x57 := by
  constructor <;> intro h <;> subst h <;> simp [HaltIns] at hD

theorem halt_shrunk (c : Ctx) (code : List Instr) (ins : Instr) (hH : HaltIns ins) (d : TData)
    (ctr : Nat) : Shrunk d (execOp c code ins d ctr).d := by
  cases ins with
  | nop => exact hH.elim
  | push n dta => exact hH.elim
  | invalid b => exact Shrunk.refl d
  | op b =>
    rcases hH with rfl | rfl | hH
    · exact Shrunk.refl d
    · exact Shrunk.refl d
    · by_cases hsd : b = 0xff
      · subst hsd
        rw [execOp_selfdestruct_eq]
        split
        · exact Shrunk.refl d
        · rename_i target d1 hp
          exact (pop_shrunk hp).record _
      · rw [execOp_ret_eq c code d ctr b (by omega)]
        split
        · rename_i e d' hp; exact (popN_shrunk 2 d []).1 e d' hp
        · rename_i off size d1 hp
          have h1 := (popN_shrunk 2 d []).2 _ d1 hp
          split
          · exact h1
          · rename_i data d2 hm
            exact (h1.trans (memLoadSlice_shrunk hm)).record _
        · rename_i args d1 _ hp; exact (popN_shrunk 2 d []).2 _ d1 hp

theorem halt_kills (c : Ctx) (code : List Instr) (ins : Instr) (hH : HaltIns ins) (d : TData)
    (ctr : Nat) (he : (execOp c code ins d ctr).err = none) :
    (execOp c code ins d ctr).kill = true := by
  cases ins with
  | nop => exact hH.elim
  | push n dta => exact hH.elim
  | invalid b => rfl
  | op b =>
    rcases hH with rfl | rfl | h | h | h
    · rfl
    · rfl
    · exact kill_ops_halt c code d ctr b (Or.inl h) he
    · exact kill_ops_halt c code d ctr b (Or.inr (Or.inl h)) he
    · exact kill_ops_halt c code d ctr b (Or.inr (Or.inr h)) he

/-- At a halting instruction the symbolic thread ends (no continuation, no transfer, no fork),
and what it leaves behind is the reference state up to the operands popped -/
theorem halt_outcome (cfg : Cfg) {ip : Nat} {ins : Instr} (hH : HaltIns ins) {d : TData}
    {cs : EVM.CS} (hR : Rel d cs) (ctr : Nat) :
    Outcome bytes code ip d cs (execOp ⟨cfg, ip, code.length⟩ code ins d ctr) := by
  obtain ⟨h56, h57⟩ := haltIns_ne_ctl hH
  have hnc := execOp_noCtl ⟨cfg, ip, code.length⟩ code ins d ctr h56 h57
  exact Outcome.ofHalt hR (halt_shrunk _ code ins hH d ctr) (halt_kills _ code ins hH d ctr)
    hnc.1 hnc.2.1

/-- … and the reference machine has no successor at a halting opcode either -/
theorem halt_no_RStep (H : Prog bytes code) {ip b : Nat} (hi : code[ip]? = some (.op b))
    (hb : b = 0x00 ∨ b = 0xfe ∨ b = 0xf3 ∨ b = 0xfd ∨ b = 0xff) (cs : EVM.CS) (c' : Conf) :
    ¬ RStep (arr bytes) (dat bytes) (ip, cs) c' := by
  have hp := H.opAt hi
  obtain ⟨hdec, _, hbyte, _⟩ := decode_op hp
  intro hs
  cases hs with
  | data hpc h =>
    have hns : ¬ (b ∈ scopeOps ∨ (0x80 ≤ b ∧ b ≤ 0x9f)) := by
      rcases hb with rfl | rfl | rfl | rfl | rfl <;> decide
    rw [hdec, refStep_unsupported _ _ _ _ hns] at h
    cases h
  | push0 hpc hb' h => rw [hbyte] at hb'; omega
  | jumpdest hpc hb' => rw [hbyte] at hb'; omega
  | jump hpc hb' => rw [hbyte] at hb'; omega
  | jumpiTaken hpc hb' => rw [hbyte] at hb'; omega
  | jumpiFall hpc hb' => rw [hbyte] at hb'; omega

/-! ### JUMP and JUMPI -/

theorem target_valid (H : Prog bytes code) {counter : SV} {t t' : Nat}
    (hv : validateJump code counter = .ok t) (hT : TargetOK counter) (hV : VRel counter t') :
    t' = t ∧ EVM.validDest (arr bytes) (dat bytes) t = true ∧ code[t]? = some (.op 0x5b) := by
  obtain ⟨w, hw, hwt, _, hc⟩ := validateJump_ok hv
  have := hV _ (hT w hw)
  exact ⟨by omega, (H.validDest_iff t).mpr hc, hc⟩

/-- JUMP, under the hypothesis the invariant carries (the operand satisfies `TargetOK`): when the symbolic machine transfers control to `t`, the reference machine jumps to `t` and then
executes the JUMPDEST there; the symbolic thread continues at `t + 1` (`advance` increments) with
data related to the reference state after these two steps. -/
theorem jump_sim (H : Prog bytes code) {c : Ctx} {d : TData} {ctr : Nat} {cs : EVM.CS} {t : Nat}
    (hi : code[c.ip]? = some (.op 0x56)) (hR : Rel d cs)
    (hT : ∀ k r, d.stack = k :: r → TargetOK k)
    (hj : (execOp c code (.op 0x56) d ctr).jumpTo = some t) :
    ∃ cs1, RStep (arr bytes) (dat bytes) (c.ip, cs) (t, cs1) ∧
      RStep (arr bytes) (dat bytes) (t, cs1) (t + 1, visit t cs1) ∧
      Rel (execOp c code (.op 0x56) d ctr).d (visit t cs1) ∧ NotNop code (t + 1) ∧
      (execOp c code (.op 0x56) d ctr).err = none := by
  obtain ⟨_, _, hbyte, hlt⟩ := decode_op (H.opAt hi)
  obtain ⟨_, counter, d1, hp, hv⟩ := execOp_jumpTo hj
  have ho : execOp c code (.op 0x56) d ctr = { d := d1, ctr := ctr, jumpTo := some t } := by
    rw [execOp_jump_eq, hp]; simp only [hv]
  rw [ho]
  obtain ⟨hlen, hst, hsto, hmem⟩ := hR
  unfold pop at hp
  split at hp
  · cases hp
  · rename_i v r hs
    cases hp
    rcases hcs : cs.stack with _ | ⟨t', r'⟩
    · rw [hs, hcs] at hst; simp at hst
    · rw [hs, hcs] at hst
      obtain ⟨rfl, hvd, hc⟩ := target_valid H hv (hT _ _ hs) hst.1
      have hpt := H.opAt hc
      obtain ⟨_, _, hbt, hltt⟩ := decode_op hpt
      refine ⟨_, RStep.jump hlt hbyte hcs hvd, RStep.jumpdest hltt hbt, ?_, hpt.next, rfl⟩
      refine ⟨?_, hst.2, hsto, hmem⟩
      simp only [hs, List.length_cons] at hlen
      simp only []; omega

/-- JUMPI: the fall-through continuation always exists on the reference side (whatever the
condition, valid target or not); when the symbolic machine asks for a fork to `t`, the reference
machine also has the taken branch to `t`.  In both cases the thread's data after the instruction
is related to the reference state with both operands popped.  (The child thread's data is the
parent's with `forkPoint` changed, which `Rel` does not read: `rel_forkPoint`.) -/
theorem jumpi_sim (H : Prog bytes code) {c : Ctx} {d : TData} {ctr : Nat} {cs : EVM.CS}
    (hi : code[c.ip]? = some (.op 0x57)) (hR : Rel d cs)
    (hT : ∀ k r, d.stack = k :: r → TargetOK k)
    (he : (execOp c code (.op 0x57) d ctr).err = none) :
    ∃ cs2, RStep (arr bytes) (dat bytes) (c.ip, cs) (c.ip + 1, cs2) ∧
      Rel (execOp c code (.op 0x57) d ctr).d cs2 ∧ NotNop code (c.ip + 1) ∧
      (execOp c code (.op 0x57) d ctr).kill = false ∧
      (execOp c code (.op 0x57) d ctr).jumpTo = none ∧
      ∀ t, (execOp c code (.op 0x57) d ctr).forkTo = some t →
        RStep (arr bytes) (dat bytes) (c.ip, cs) (t, cs2) ∧ NotNop code t := by
  have hpi := H.opAt hi
  obtain ⟨_, _, hbyte, hlt⟩ := decode_op hpi
  obtain ⟨hlen, hst, hsto, hmem⟩ := hR
  rw [execOp_jumpi_eq] at he ⊢
  rcases hs : d.stack with _ | ⟨counter, _ | ⟨cond, r⟩⟩
  · rw [pop_nil d hs] at he; cases he
  · rw [pop_cons d counter [] hs] at he
    dsimp only at he
    rw [pop_nil _ rfl] at he; cases he
  · rcases hcs : cs.stack with _ | ⟨t', _ | ⟨c', r'⟩⟩
    · rw [hs, hcs] at hst; simp at hst
    · rw [hs, hcs] at hst; simp at hst
    · rw [hs, hcs] at hst
      rw [pop_cons d counter (cond :: r) hs]
      dsimp only
      rw [pop_cons _ cond r rfl]
      dsimp only
      have hrel : Rel { d with stack := r } { visit c.ip cs with stack := r' } := by
        refine ⟨?_, hst.2.2, hsto, hmem⟩
        simp only [hs, List.length_cons] at hlen
        simp only []; omega
      refine ⟨{ visit c.ip cs with stack := r' }, RStep.jumpiFall hlt hbyte hcs, ?_, hpi.next, ?_⟩
      · split <;> exact hrel
      · cases hv : validateJump code counter with
        | error e => exact ⟨rfl, rfl, fun t ht => by cases ht⟩
        | ok t0 =>
          refine ⟨rfl, rfl, fun t ht => ?_⟩
          simp only [Option.some.injEq] at ht
          subst ht
          obtain ⟨rfl, hvd, hc⟩ := target_valid H hv (hT _ _ hs) hst.1
          exact ⟨RStep.jumpiTaken hlt hbyte hcs hvd, by unfold NotNop; rw [hc]; simp⟩

theorem jump_fine (c : Ctx) (code : List Instr) (d : TData) (ctr : Nat) :
    Shrunk d (execOp c code (.op 0x56) d ctr).d ∧ (execOp c code (.op 0x56) d ctr).forkTo = none ∧
    ((execOp c code (.op 0x56) d ctr).err = none → (execOp c code (.op 0x56) d ctr).kill = false →
      (execOp c code (.op 0x56) d ctr).jumpTo ≠ none) := by
  rw [execOp_jump_eq]
  split
  · exact ⟨Shrunk.refl d, rfl, fun he _ => by simp [fail] at he⟩
  · rename_i counter d1 hp
    have h1 := pop_shrunk hp
    split
    · exact ⟨h1, rfl, fun _ _ => by simp⟩
    · dsimp only
      split
      · exact ⟨h1.record _, rfl, fun _ hk => by simp at hk⟩
      · exact ⟨h1.record _, rfl, fun he _ => by simp [fail] at he⟩

theorem jump_outcome (H : Prog bytes code) (cfg : Cfg) {ip : Nat}
    (hi : code[ip]? = some (.op 0x56)) {d : TData} {cs : EVM.CS} (hR : Rel d cs)
    (hT : ∀ k r, d.stack = k :: r → TargetOK k) (ctr : Nat) :
    Outcome bytes code ip d cs (execOp ⟨cfg, ip, code.length⟩ code (.op 0x56) d ctr) := by
  obtain ⟨hsh, hf, hc⟩ := jump_fine ⟨cfg, ip, code.length⟩ code d ctr
  refine ⟨fun _ _ => hsh.rel hR, fun _ _ => hsh.rel hR, fun he hk hj => absurd hj (hc he hk),
    fun t _ hj => ?_, fun t _ hf' => by rw [hf] at hf'; cases hf'⟩
  obtain ⟨cs1, h1, h2, h3, h4, _⟩ := jump_sim (c := ⟨cfg, ip, code.length⟩) H hi hR hT hj
  exact ⟨cs1, h1, h2, h3, h4⟩

theorem jumpi_shrunk (c : Ctx) (code : List Instr) (d : TData) (ctr : Nat) :
    Shrunk d (execOp c code (.op 0x57) d ctr).d := by
  rw [execOp_jumpi_eq]
  split
  · exact Shrunk.refl d
  · rename_i counter d1 hp
    have h1 := pop_shrunk hp
    split
    · exact h1
    · rename_i cond d2 hp2
      have h2 := h1.trans (pop_shrunk hp2)
      dsimp only
      split
      · exact h2.record _
      · exact (h2.record _).record _

theorem jumpi_outcome (H : Prog bytes code) (cfg : Cfg) {ip : Nat}
    (hi : code[ip]? = some (.op 0x57)) {d : TData} {cs : EVM.CS} (hR : Rel d cs)
    (hT : ∀ k r, d.stack = k :: r → TargetOK k) (ctr : Nat) :
    Outcome bytes code ip d cs (execOp ⟨cfg, ip, code.length⟩ code (.op 0x57) d ctr) := by
  have hsh := jumpi_shrunk ⟨cfg, ip, code.length⟩ code d ctr
  refine ⟨fun _ _ => hsh.rel hR, fun _ _ => hsh.rel hR, fun he _ _ => ?_, fun t he hj => ?_,
    fun t he hf => ?_⟩
  · obtain ⟨cs2, h1, h2, h3, _⟩ := jumpi_sim (c := ⟨cfg, ip, code.length⟩) H hi hR hT he
    exact ⟨_, cs2, h1, h2, SledTo.here h3⟩
  · obtain ⟨cs2, _, _, _, _, h5, _⟩ := jumpi_sim (c := ⟨cfg, ip, code.length⟩) H hi hR hT he
    rw [h5] at hj; cases hj
  · obtain ⟨cs2, _, h2, _, _, _, h6⟩ := jumpi_sim (c := ⟨cfg, ip, code.length⟩) H hi hR hT he
    exact ⟨cs2, (h6 t hf).1, h2, (h6 t hf).2⟩

/-! ### JUMP and JUMPI with the hypothesis on the popped operand spelled out -/

theorem pop_stack {d d1 : TData} {v : SV} (h : pop d = .ok (v, d1)) : d.stack = v :: d1.stack := by
  unfold pop at h
  split at h
  · cases h
  · rename_i v' r hs; cases h; exact hs

/-- JUMP.  That the popped counter is evaluable is not enough: the constant the tool folds the
counter to must be the value the counter denotes (`hag`).  This cannot be dropped
(`jump_sim_counterexample`); it holds for literals (`targetOK_mkKnown`). -/
theorem jump_sim_partial (H : Prog bytes code) {c : Ctx} {d d1 : TData} {ctr : Nat} {cs : EVM.CS}
    {t w : Nat} {counter : SV} (hi : code[c.ip]? = some (.op 0x56)) (hR : Rel d cs)
    (hp : pop d = .ok (counter, d1)) (hev : evalSV counter = some w)
    (hag : ∀ w', VM.isKnown (fold counter) = some w' → w'.toNat = w)
    (hj : (execOp c code (.op 0x56) d ctr).jumpTo = some t) :
    t = w ∧ cs.stack.head? = some w ∧
    ∃ cs1, RStep (arr bytes) (dat bytes) (c.ip, cs) (t, cs1) ∧
      RStep (arr bytes) (dat bytes) (t, cs1) (t + 1, visit t cs1) ∧
      Rel (execOp c code (.op 0x56) d ctr).d (visit t cs1) := by
  have hs := pop_stack hp
  have hT : ∀ k r, d.stack = k :: r → TargetOK k := by
    intro k r hk w' hw'
    rw [hs] at hk; cases hk
    rw [hag w' hw']; exact hev
  obtain ⟨cs1, h1, h2, h3, _, _⟩ := jump_sim H hi hR hT hj
  obtain ⟨_, counter', d1', hp', hv⟩ := execOp_jumpTo hj
  rw [hp] at hp'; cases hp'
  obtain ⟨w', hw', hwt, _, _⟩ := validateJump_ok hv
  have htw : t = w := by rw [← hwt]; exact hag w' hw'
  refine ⟨htw, ?_, cs1, h1, h2, h3⟩
  have hst := hR.2.1
  rw [hs] at hst
  cases hcs : cs.stack with
  | nil => rw [hcs] at hst; simp at hst
  | cons x r => rw [hcs] at hst; simp [hst.1 w hev]

/-- JUMP for a well-formed counter: "evaluable" suffices when every literal of the counter
is a 256-bit word (`Bridge.LitOK`), because then folding and evaluation agree (`Bridge.fold_agree`). -/
theorem jump_sim_of_litOK (H : Prog bytes code) {c : Ctx} {d d1 : TData} {ctr : Nat} {cs : EVM.CS}
    {t w : Nat} {counter : SV} (hi : code[c.ip]? = some (.op 0x56)) (hR : Rel d cs)
    (hp : pop d = .ok (counter, d1)) (hev : evalSV counter = some w) (hlit : Bridge.LitOK counter)
    (hj : (execOp c code (.op 0x56) d ctr).jumpTo = some t) :
    t = w ∧ cs.stack.head? = some w ∧
    ∃ cs1, RStep (arr bytes) (dat bytes) (c.ip, cs) (t, cs1) ∧
      RStep (arr bytes) (dat bytes) (t, cs1) (t + 1, visit t cs1) ∧
      Rel (execOp c code (.op 0x56) d ctr).d (visit t cs1) :=
  jump_sim_partial H hi hR hp hev (fun w' hw' => by
    have := Bridge.fold_agree counter hlit w' hw'
    rw [hev] at this; cases this; rfl) hj

/-- JUMPI: the fall-through continuation `(ip + 1, cs2)` always; and if the machine asks
for a fork to `t`, the taken continuation `(t, cs2)`, with the child's data (the parent's with
`forkPoint` changed) related to `cs2`.  Hypothesis on the operand as in `jump_sim_partial`, needed
only when the fork is requested. -/
theorem jumpi_sim_partial (H : Prog bytes code) {c : Ctx} {d : TData} {ctr : Nat} {cs : EVM.CS}
    (hi : code[c.ip]? = some (.op 0x57)) (hR : Rel d cs)
    (hT : ∀ k r, d.stack = k :: r → TargetOK k)
    (he : (execOp c code (.op 0x57) d ctr).err = none) :
    ∃ cs2, RStep (arr bytes) (dat bytes) (c.ip, cs) (c.ip + 1, cs2) ∧
      Rel (execOp c code (.op 0x57) d ctr).d cs2 ∧
      ∀ t, (execOp c code (.op 0x57) d ctr).forkTo = some t →
        RStep (arr bytes) (dat bytes) (c.ip, cs) (t, cs2) ∧
        Rel { (execOp c code (.op 0x57) d ctr).d with forkPoint := c.ip } cs2 := by
  obtain ⟨cs2, h1, h2, _, _, _, h6⟩ := jumpi_sim H hi hR hT he
  exact ⟨cs2, h1, h2, fun t ht => ⟨(h6 t ht).1, h2⟩⟩

/-- An instruction that sets `kill` requests no transfer and no fork (so the thread
has no successor: `VM.halt_ends_path_kill`), and at STOP / INVALID / RETURN / REVERT / SELFDESTRUCT
the reference machine has no successor either. -/
theorem halt_sim (H : Prog bytes code) {c : Ctx} {d : TData} {ctr : Nat} {ins : Instr}
    (hi : code[c.ip]? = some ins)
    (hk : (execOp c code ins d ctr).kill = true) :
    (execOp c code ins d ctr).jumpTo = none ∧ (execOp c code ins d ctr).forkTo = none ∧
    ∀ b, ins = .op b → (b = 0x00 ∨ b = 0xfe ∨ b = 0xf3 ∨ b = 0xfd ∨ b = 0xff) →
      ∀ cs c', ¬ RStep (arr bytes) (dat bytes) (c.ip, cs) c' := by
  obtain ⟨h1, h2⟩ := execOp_kill_noCtl hk
  refine ⟨h1, h2, fun b hb hbs cs c' => ?_⟩
  subst hb
  exact halt_no_RStep H hi hbs cs c'

end outcome

/-! ### why `jump_sim_partial` needs the agreement hypothesis -/

/-- `LT(2^256, 1)` with an ill-formed literal: denotes 0 over the naturals, folds to 1 -/
def badCounter : SV :=
  .node .lessThan [] [.node .knownData [2 ^ 256] [] 1, .node .knownData [1] [] 1] 3

theorem badCounter_eval : evalSV badCounter = some 0 := by
  simp [badCounter, evalSV, EvalC.evalList, EVM.lt, EVM.ofBool]

theorem badCounter_fold : VM.isKnown (fold badCounter) = some 1#256 := by
  simp [badCounter, VM.isKnown, fold, foldList, foldNode, knownBin, asWord, mkKnown, Known.lt,
    Word.ofBool, rebuild]

/-- The program `JUMP; JUMPDEST`, a thread at offset 0 with `badCounter` on its stack, related to
the reference state with stack `[0]`: the counter is evaluable, the symbolic machine transfers to
offset 1, the reference machine has no step to offset 1 (it would jump to 0, which is no
JUMPDEST). -/
theorem jump_sim_counterexample :
    ∃ (d : TData) (cs : EVM.CS) (counter : SV) (d1 : TData),
      Prog [0x56, 0x5b] [.op 0x56, .op 0x5b] ∧ Rel d cs ∧ pop d = .ok (counter, d1) ∧
      evalSV counter = some 0 ∧
      (execOp ⟨⟨0, 0, 0, 10, 0, false⟩, 0, 2⟩ [.op 0x56, .op 0x5b] (.op 0x56) d 0).jumpTo = some 1 ∧
      ∀ cs', ¬ RStep (arr [0x56, 0x5b]) (dat [0x56, 0x5b]) (0, cs) (1, cs') := by
  refine ⟨{ stack := [badCounter] }, { stack := [0] }, badCounter, {}, ?_, ?_, rfl,
    badCounter_eval, ?_, ?_⟩
  · exact ⟨by simp, by simp, by rfl⟩
  · refine ⟨by simp, ⟨?_, trivial⟩, ?_, ?_⟩
    · intro r hr; rw [badCounter_eval] at hr; cases hr; rfl
    · intro w; exact ⟨[], [], rfl, Or.inl rfl, trivial⟩
    · intro k; exact VRel_of_eval (by simp [cellVal, zeroCell, mkKnown, evalSV, EVM.mload])
  · rw [execOp_jump_eq]
    have hv : validateJump [.op 0x56, .op 0x5b] badCounter = .ok 1 := by
      unfold validateJump
      rw [badCounter_fold]
      simp
    simp [pop, hv]
  · intro cs' hs
    generalize hc : ((1 : Nat), cs') = c1 at hs
    generalize hc0 : ((0 : Nat), ({ stack := [0] } : EVM.CS)) = c0 at hs
    cases hs with
    | data hpc h =>
      cases hc0
      simp [decode, arr, refStep, aluOk] at h
    | push0 hpc hb h => cases hc0; simp [arr] at hb
    | jumpdest hpc hb => cases hc0; simp [arr] at hb
    | jump hpc hb hs' hv =>
      cases hc0
      simp only [List.cons.injEq] at hs'
      obtain ⟨rfl, _⟩ := hs'
      cases hc
    | jumpiTaken hpc hb => cases hc0; simp [arr] at hb
    | jumpiFall hpc hb => cases hc0; simp [arr] at hb

/-! ## programs in scope, the side conditions, the invariant -/

/-- the instructions the path simulation covers: PUSH0..PUSH32 (complete immediates; `nop` is
the placeholder of an immediate byte), DUP, SWAP, and the single-byte data opcodes of
`EvmSim.scopeOps` (POP, PC, CODESIZE, ISZERO, NOT, MLOAD, MSTORE, SLOAD, SSTORE, the 19 binary ALU
opcodes `aluOk`), JUMPDEST, JUMP, JUMPI, STOP, INVALID, RETURN, REVERT, SELFDESTRUCT, and the
stream's `invalid` entries (which end the path at once).  NOT: SIGNEXTEND, ADDMOD, MULMOD, BYTE
(recorded defects), MSTORE8, and everything else. -/
def InsOK : Instr → Prop
  | .nop => True
  | .push _ _ => True
  | .invalid _ => True
  | .op b => b = 0x5f ∨ DataOp b ∨ b = 0x5b ∨ b = 0x56 ∨ b = 0x57 ∨
      (b = 0x00 ∨ b = 0xfe ∨ b = 0xf3 ∨ b = 0xfd ∨ b = 0xff)

def InScope (bytes : List Nat) : Prop :=
  ∀ code, Disasm.disasm bytes = .ok code → ∀ ins ∈ code, InsOK ins

section inv
variable {bytes : List Nat} {code : List Instr}

theorem outcome (H : Prog bytes code) (cfg : Cfg) {ip : Nat} {ins : Instr}
    (hi : code[ip]? = some ins) (hok : InsOK ins) (hne : ins ≠ .nop) {d : TData} {cs : EVM.CS}
    (hR : Rel d cs) (hside : SideT ins d) (ctr : Nat) :
    Outcome bytes code ip d cs (execOp ⟨cfg, ip, code.length⟩ code ins d ctr) := by
  cases ins with
  | nop => exact absurd rfl hne
  | push n dta => exact data_outcome H cfg hi trivial hR hside.1 ctr
  | invalid b => exact halt_outcome (ins := .invalid b) cfg trivial hR ctr
  | op b =>
    rcases hok with rfl | h | rfl | rfl | rfl | h
    · exact push0_outcome H cfg hi hR ctr
    · exact data_outcome H cfg hi h hR hside.1 ctr
    · exact jumpdest_outcome H cfg hi hR ctr
    · exact jump_outcome H cfg hi hR (hside.2 (Or.inl rfl)) ctr
    · exact jumpi_outcome H cfg hi hR (hside.2 (Or.inr rfl)) ctr
    · exact halt_outcome (ins := .op b) cfg h hR ctr

/-- a queued thread: its data is related to a reference-reachable configuration whose program
counter is where the thread stands, or (while the thread walks over the placeholders of a push
immediate, which the reference machine skips) where that walk ends -/
def TInv (bytes : List Nat) (code : List Instr) (t : Thread) : Prop :=
  ∃ pc cs, RReach (arr bytes) (dat bytes) (pc, cs) ∧ Rel t.d cs ∧ SledTo code t.ip pc

def DInv (bytes : List Nat) (t : Thread) : Prop :=
  ∃ pc cs, RReach (arr bytes) (dat bytes) (pc, cs) ∧ Weak t.d cs

/-- the visit counters: every offset executed is a placeholder or reference-reachable -/
def VInv (bytes : List Nat) (code : List Instr) (t : Thread) : Prop :=
  ∀ i, t.visited.getD i 0 ≠ 0 → code[i]? = some .nop ∨ ∃ cs, RReach (arr bytes) (dat bytes) (i, cs)

structure Inv (bytes : List Nat) (code : List Instr) (s : VMS) : Prop where
  queue : ∀ t ∈ s.queue, TInv bytes code t ∧ VInv bytes code t
  stored : ∀ t ∈ s.stored, DInv bytes t ∧ VInv bytes code t

/-- the side conditions at a machine state: they concern the instruction the head thread is
about to execute -/
def SideOK (code : List Instr) (s : VMS) : Prop :=
  ∀ t rest ins, s.queue = t :: rest → code[t.ip]? = some ins → SideT ins t.d

theorem inv_init (H : Prog bytes code) (cfg : Cfg) : Inv bytes code (initVM cfg code) := by
  constructor
  · intro t ht
    simp only [initVM, List.mem_singleton] at ht
    subst ht
    refine ⟨⟨0, {}, RReach.init, rel_init, SledTo.here H.notNop_zero⟩, fun i hi => ?_⟩
    exfalso; apply hi
    simp only [List.getD_eq_getElem?_getD, List.getElem?_replicate]; split <;> simp
  · intro t ht; simp [initVM] at ht

theorem vinv_bump {t : Thread} (hv : VInv bytes code t)
    (h : code[t.ip]? = some .nop ∨ ∃ cs, RReach (arr bytes) (dat bytes) (t.ip, cs)) (v : Thread)
    (hvis : v.visited = bump t.visited t.ip) : VInv bytes code v := by
  intro i hi
  rw [hvis] at hi
  by_cases hti : t.ip = i
  · subst hti; exact h
  · rw [bump_getD_ne _ hti] at hi; exact hv i hi

theorem advance_pinv {cfg : Cfg} {s : VMS} {t : Thread} {rest : List Thread}
    (hq : s.queue = t :: rest)
    (hrest : ∀ t' ∈ rest, TInv bytes code t' ∧ VInv bytes code t')
    (hst : ∀ t' ∈ s.stored, DInv bytes t' ∧ VInv bytes code t')
    (hv : VInv bytes code t) (hd : DInv bytes t)
    (hnext : s.killed = false → TInv bytes code { t with ip := t.ip + 1 }) :
    Inv bytes code (advance cfg code s) := by
  rw [advance_cons hq]
  split
  · constructor
    · exact hrest
    · intro t' ht'
      rcases List.mem_append.mp ht' with ht' | ht'
      · exact hst t' ht'
      · rw [List.mem_singleton.mp ht']; exact ⟨hd, hv⟩
  · rename_i hret
    have hk : s.killed = false := by
      unfold retire at hret
      cases hk : s.killed with
      | false => rfl
      | true => rw [hk] at hret; simp at hret
    constructor
    · intro t' ht'
      rcases List.mem_cons.mp ht' with ht' | ht'
      · rw [ht']; exact ⟨hnext hk, hv⟩
      · exact hrest t' ht'
    · exact hst


theorem inv_abort {s : VMS} (h : Inv bytes code s) (a : Option XErr) :
    Inv bytes code { s with aborted := a } := ⟨h.queue, h.stored⟩

theorem inv_step (H : Prog bytes code) (hsc : InScope bytes) (cfg : Cfg) {s : VMS}
    (h : Inv bytes code s) (hside : SideOK code s) : Inv bytes code (step cfg code s) := by
  refine step_cases (motive := Inv bytes code) (fun _ => h) (fun _ _ _ _ => inv_abort h _)
    (fun _ _ _ _ _ _ _ => inv_abort h _) (fun t rest ins hq hi he => ?_)
    (fun t rest ins e hq hi he hp => ?_)
  all_goals
    have hrest : ∀ t' ∈ rest, TInv bytes code t' ∧ VInv bytes code t' :=
      fun t' ht' => h.queue t' (by rw [hq]; simp [ht'])
    obtain ⟨⟨pc, cs, hreach, hR, hsl⟩, hv⟩ := h.queue t (by rw [hq]; simp)
    have hok : InsOK ins := hsc code H.dis ins (List.mem_of_getElem? hi)
    have hsd : SideT ins t.d := hside t rest ins hq hi
    rcases hsl.cases hi with ⟨rfl, hsl'⟩ | ⟨hne, rfl⟩
  · -- walking over a push immediate
    obtain ⟨h1, h2, _, h4⟩ := midOk_noCtl (cfg := cfg) (s := s) (t := t) (rest := rest)
      (ins := .nop) (o := opOut cfg code s t .nop) rfl rfl
    exact advance_pinv h1 hrest (by rw [h2]; exact h.stored)
      (vinv_bump hv (Or.inl hi) _ rfl) ⟨pc, cs, hreach, (Rel.weak hR)⟩
      (fun _ => ⟨pc, cs, hreach, hR, hsl'⟩)
  · -- at the reference machine's program counter
    have hO := outcome H cfg hi hok hne hR hsd s.ctr
    have hvb : ∀ v : Thread, v.visited = bump t.visited t.ip → VInv bytes code v :=
      vinv_bump hv (Or.inr ⟨cs, hreach⟩)
    obtain ⟨hst, hkl, hcs⟩ := midOk_queue cfg s t rest ins (opOut cfg code s t ins)
    have hstored : ∀ t' ∈ (midOk cfg s t rest ins (opOut cfg code s t ins)).stored,
        DInv bytes t' ∧ VInv bytes code t' := by rw [hst]; exact h.stored
    rcases hcs with ⟨tgt, hj, hmq⟩ | ⟨hj, hcs⟩
    · -- JUMP
      obtain ⟨cs1, r1, r2, hR1, hnn⟩ := hO.jump tgt he hj
      have hreach1 := (hreach.step r1).step r2
      exact advance_pinv hmq hrest hstored (hvb _ rfl) ⟨_, _, hreach1, (Rel.weak hR1)⟩
        (fun _ => ⟨_, _, hreach1, hR1, SledTo.here hnn⟩)
    · -- no transfer: the head thread stays on its path (perhaps with a forked child)
      have hd : DInv bytes (after t ins (opOut cfg code s t ins)) := by
        cases hk : (opOut cfg code s t ins).kill with
        | true => exact ⟨t.ip, cs, hreach, hO.kill he hk⟩
        | false =>
          obtain ⟨pc', cs', r1, hR1, _⟩ := hO.cont he hk hj
          exact ⟨pc', cs', hreach.step r1, (Rel.weak hR1)⟩
      have hnext : (midOk cfg s t rest ins (opOut cfg code s t ins)).killed = false →
          TInv bytes code { after t ins (opOut cfg code s t ins) with ip := t.ip + 1 } := by
        intro hk
        rw [hkl] at hk
        obtain ⟨pc', cs', r1, hR1, hsl1⟩ := hO.cont he (Bool.or_eq_false_iff.mp hk).2 hj
        exact ⟨pc', cs', hreach.step r1, hR1, hsl1⟩
      rcases hcs with hmq | ⟨tgt, hf, hmq⟩
      · exact advance_pinv hmq hrest hstored (hvb _ rfl) hd hnext
      · obtain ⟨cs2, r2, hR2, hnn⟩ := hO.fork tgt he hf
        refine advance_pinv hmq ?_ hstored (hvb _ rfl) hd hnext
        intro t' ht'
        rcases List.mem_append.mp ht' with ht' | ht'
        · exact hrest t' ht'
        · rw [List.mem_singleton.mp ht']
          exact ⟨⟨tgt, cs2, hreach.step r2, hR2, SledTo.here hnn⟩, hvb _ rfl⟩
  · -- a placeholder does not fail
    cases he
  · exact advance_pinv (s := midErr cfg s t rest (opOut cfg code s t ins) e) rfl hrest
      h.stored (vinv_bump hv (Or.inr ⟨cs, hreach⟩) _ rfl) ⟨t.ip, cs, hreach,
        (outcome H cfg hi hok hne hR hsd s.ctr).err e he⟩ (fun hk => nomatch hk)

/-! ## reachable machine states; the corollaries -/

/-- the machine states `VM::execute` goes through -/
inductive MReach (cfg : Cfg) (code : List Instr) : VMS → Prop
  | init : MReach cfg code (initVM cfg code)
  | step {s : VMS} : MReach cfg code s → MReach cfg code (step cfg code s)

theorem mreach_run {cfg : Cfg} (fuel : Nat) (s : VMS) (h : MReach cfg code s) :
    MReach cfg code (run cfg code fuel s) :=
  run_induction (fun _ h => h.step) fuel s h

theorem inv_reach (H : Prog bytes code) (hsc : InScope bytes) (cfg : Cfg)
    (hside : ∀ s, MReach cfg code s → SideOK code s) :
    ∀ s, MReach cfg code s → Inv bytes code s := by
  intro s hs
  induction hs with
  | init => exact inv_init H cfg
  | step hr ih => exact inv_step H hsc cfg ih (hside _ hr)

/-- C08 soundness, general form: in every reachable machine state, every offset a thread
(queued or stored) has executed and that is not a push-immediate placeholder is reachable by the
reference EVM on some path (both branches taken at every JUMPI). -/
theorem executed_is_evm_reachable' (H : Prog bytes code) (hsc : InScope bytes) (cfg : Cfg)
    (hside : ∀ s, MReach cfg code s → SideOK code s) (s : VMS) (hs : MReach cfg code s) :
    ∀ t ∈ s.queue ++ s.stored, ∀ i ins, t.visited.getD i 0 ≠ 0 → code[i]? = some ins →
      ins ≠ .nop → ∃ cs, RReach (arr bytes) (dat bytes) (i, cs) := by
  intro t ht i ins hv hi hne
  have hI := inv_reach H hsc cfg hside s hs
  have hV : VInv bytes code t := by
    rcases List.mem_append.mp ht with ht | ht
    · exact (hI.queue t ht).2
    · exact (hI.stored t ht).2
  rcases hV i hv with h | h
  · rw [hi] at h; cases h; exact absurd rfl hne
  · exact h

/-- C08 soundness: after any number of iterations of `VM::execute`, for every
thread in the queue or stored, every offset with a non-zero visit count that holds a real
instruction other than JUMPDEST is reference-reachable. -/
theorem executed_is_evm_reachable (H : Prog bytes code) (hsc : InScope bytes) (cfg : Cfg)
    (hside : ∀ s, MReach cfg code s → SideOK code s) (fuel : Nat) :
    ∀ t ∈ (run cfg code fuel (initVM cfg code)).queue ++ (run cfg code fuel (initVM cfg code)).stored,
      ∀ i ins, t.visited.getD i 0 ≠ 0 → code[i]? = some ins → ins ≠ .nop → ins ≠ .op 0x5b →
        ∃ cs, RReach (arr bytes) (dat bytes) (i, cs) :=
  fun t ht i ins hv hi hne _ =>
    executed_is_evm_reachable' H hsc cfg hside _ (mreach_run fuel _ MReach.init) t ht i ins hv hi hne

/-- C07 for queued threads: the data of every queued thread is `Rel`-related to the state of
a reference-reachable configuration (standing where the thread stands, up to push-immediate
placeholders). -/
theorem queued_state_matches_a_path (H : Prog bytes code) (hsc : InScope bytes) (cfg : Cfg)
    (hside : ∀ s, MReach cfg code s → SideOK code s) (s : VMS) (hs : MReach cfg code s) :
    ∀ t ∈ s.queue, ∃ pc cs, RReach (arr bytes) (dat bytes) (pc, cs) ∧ Rel t.d cs ∧
      SledTo code t.ip pc :=
  fun t ht => ((inv_reach H hsc cfg hside s hs).queue t ht).1

/-- … in particular, a queued thread standing on a real instruction (not a push-immediate
placeholder) is related to a reference configuration at exactly its own offset. -/
theorem queued_state_at_instruction (H : Prog bytes code) (hsc : InScope bytes) (cfg : Cfg)
    (hside : ∀ s, MReach cfg code s → SideOK code s) (s : VMS) (hs : MReach cfg code s) :
    ∀ t ∈ s.queue, ∀ ins, code[t.ip]? = some ins → ins ≠ .nop →
      ∃ cs, RReach (arr bytes) (dat bytes) (t.ip, cs) ∧ Rel t.d cs := by
  intro t ht ins hi hne
  obtain ⟨pc, cs, hr, hR, hsl⟩ := queued_state_matches_a_path H hsc cfg hside s hs t ht
  rcases hsl.cases hi with ⟨hn, _⟩ | ⟨_, rfl⟩
  · exact absurd hn hne
  · exact ⟨cs, hr, hR⟩

/-- C07 for stored threads: storage and memory of every stored thread agree with the state
`cs` of a reference-reachable configuration, and its stack agrees with `cs.stack` minus the
`k` operands the thread's last instruction popped before it halted or failed. -/
theorem stored_state_matches_a_path_partial (H : Prog bytes code) (hsc : InScope bytes)
    (cfg : Cfg) (hside : ∀ s, MReach cfg code s → SideOK code s) (s : VMS)
    (hs : MReach cfg code s) :
    ∀ t ∈ s.stored, ∃ pc cs k, RReach (arr bytes) (dat bytes) (pc, cs) ∧ Rel t.d (dropK k cs) := by
  intro t ht
  obtain ⟨pc, cs, hr, k, hk⟩ := ((inv_reach H hsc cfg hside s hs).stored t ht).1
  exact ⟨pc, cs, k, hr, hk⟩

end inv

/-! ## discharging the side conditions syntactically

If every SLOAD/SSTORE/MLOAD/MSTORE/JUMP/JUMPI is immediately preceded by a PUSH (of an offset
below 2^64 for the memory instructions), and the value-size limit is at least 1 (so that a pushed
literal is not culled), the side conditions hold in every reachable state. -/

/-- the literal a PUSHn leaves on the stack -/
def pushLit (dta : List Nat) : SV := mkKnown (BitVec.ofNat 256 (beVal dta))

/-- offset `i` is immediately preceded by a PUSHn whose value satisfies `P`, or by a PUSH0 -/
def PrecededByPush (code : List Instr) (i : Nat) (P : Nat → Prop) : Prop :=
  (∃ p n dta, code[p]? = some (.push n dta) ∧ p + n + 1 = i ∧ P (beVal dta % 2 ^ 256)) ∨
  (∃ p, code[p]? = some (.op 0x5f) ∧ p + 1 = i ∧ P 0)

def PushGuarded (code : List Instr) : Prop :=
  ∀ i b, code[i]? = some (.op b) →
    ((b = 0x54 ∨ b = 0x55 ∨ b = 0x56 ∨ b = 0x57) → PrecededByPush code i (fun _ => True)) ∧
    ((b = 0x51 ∨ b = 0x52) → PrecededByPush code i (fun v => v < 2 ^ 64))

/-- a thread that has just executed a PUSH (and is walking over its immediate, or has arrived
behind it) has the pushed literal on top of its stack — unless it stands on a JUMPDEST, where it
may have arrived by a jump -/
def LInv (code : List Instr) (t : Thread) : Prop :=
  code[t.ip]? ≠ some (.op 0x5b) →
  (∀ p n dta, code[p]? = some (.push n dta) → p < t.ip → t.ip ≤ p + n + 1 →
    ∃ r, t.d.stack = pushLit dta :: r) ∧
  (∀ p, code[p]? = some (.op 0x5f) → p + 1 = t.ip → ∃ r, t.d.stack = mkKnown 0#256 :: r)

section syntactic
variable {bytes : List Nat} {code : List Instr}

theorem buildKnown_lit (c : Ctx) (ctr : Nat) (w : Word) (h : 1 ≤ c.cfg.valueLimit) :
    (buildKnown c ctr w).1 = mkKnown w := by
  have : ¬ (1 > c.cfg.valueLimit) := by omega
  simp [buildKnown, build, SV.mk, childSize, mkKnown, this]

theorem pushOut_top {d : TData} {ctr : Nat} {v : SV} (h : (pushOut d ctr v).err = none) :
    (pushOut d ctr v).d.stack = v :: d.stack := by
  rw [pushOut_eq] at h ⊢
  split
  · rename_i hc; rw [if_pos hc] at h; simp [fail] at h
  · rfl

theorem mem_advance_queue {cfg : Cfg} {m : VMS} {h : Thread} {q : List Thread}
    (hq : m.queue = h :: q) {t' : Thread} (ht' : t' ∈ (advance cfg code m).queue) :
    t' = { h with ip := h.ip + 1 } ∨ t' ∈ q := by
  rw [advance_cons hq] at ht'
  split at ht'
  · exact Or.inr ht'
  · exact List.mem_cons.mp ht'

theorem step_queue (cfg : Cfg) (s : VMS) :
    ∀ t' ∈ (step cfg code s).queue, t' ∈ s.queue ∨
      ∃ t rest ins, s.queue = t :: rest ∧ code[t.ip]? = some ins ∧
        (opOut cfg code s t ins).err = none ∧
        (((opOut cfg code s t ins).jumpTo = none ∧ t'.ip = t.ip + 1 ∧
            t'.d = (opOut cfg code s t ins).d) ∨
         (∃ tgt, (opOut cfg code s t ins).jumpTo = some tgt ∧ t'.ip = tgt + 1) ∨
         (∃ tgt, (opOut cfg code s t ins).forkTo = some tgt ∧ t'.ip = tgt)) := by
  intro t'
  refine step_cases (cfg := cfg) (code := code) (s := s)
    (motive := fun s' => t' ∈ s'.queue → t' ∈ s.queue ∨ _) (fun _ => Or.inl)
    (fun _ _ _ _ => Or.inl) (fun _ _ _ _ _ _ _ => Or.inl) (fun t rest ins hq hi he ht' => ?_)
    (fun t rest ins e hq hi he hp ht' => ?_)
  · have hrest : ∀ x ∈ rest, x ∈ s.queue := fun x hx => by rw [hq]; simp [hx]
    obtain ⟨_, _, hcs⟩ := midOk_queue cfg s t rest ins (opOut cfg code s t ins)
    rcases hcs with ⟨tgt, hj, hmq⟩ | ⟨hj, hmq | ⟨tgt, hf, hmq⟩⟩
    · rcases mem_advance_queue hmq ht' with h | h
      · exact Or.inr ⟨t, rest, ins, hq, hi, he, Or.inr (Or.inl ⟨tgt, hj, by rw [h]⟩)⟩
      · exact Or.inl (hrest t' h)
    · rcases mem_advance_queue hmq ht' with h | h
      · exact Or.inr ⟨t, rest, ins, hq, hi, he, Or.inl ⟨hj, by rw [h]; rfl, by rw [h]; rfl⟩⟩
      · exact Or.inl (hrest t' h)
    · rcases mem_advance_queue hmq ht' with h | h
      · exact Or.inr ⟨t, rest, ins, hq, hi, he, Or.inl ⟨hj, by rw [h]; rfl, by rw [h]; rfl⟩⟩
      · rcases List.mem_append.mp h with h | h
        · exact Or.inl (hrest t' h)
        · exact Or.inr ⟨t, rest, ins, hq, hi, he,
            Or.inr (Or.inr ⟨tgt, hf, by rw [List.mem_singleton.mp h]⟩)⟩
  · have hmq : (midErr cfg s t rest (opOut cfg code s t ins) e).queue = _ :: rest := rfl
    rw [(advance_killed hmq rfl).1] at ht'
    exact Or.inl (by rw [hq]; exact List.mem_cons_of_mem _ ht')

theorem linv_step (H : Prog bytes code) (cfg : Cfg) (hlim : 1 ≤ cfg.valueLimit) {s : VMS}
    (h : ∀ t ∈ s.queue, LInv code t) : ∀ t ∈ (step cfg code s).queue, LInv code t := by
  intro t' ht'
  rcases step_queue cfg s t' ht' with hin |
    ⟨t, rest, ins, hq, hi, he, hc | ⟨tgt, hj, hip⟩ | ⟨tgt, hf, hip⟩⟩
  · exact h t' hin
  · -- the head thread moves on by one instruction
    have ht : LInv code t := h t (by rw [hq]; simp)
    obtain ⟨_, hip, hd⟩ := hc
    intro _
    constructor
    · intro p n dta hp h1 h2
      rw [hip] at h1 h2
      rw [hd]
      by_cases hpt : p = t.ip
      · subst hpt
        rw [hi] at hp; cases hp
        unfold opOut at he ⊢
        rw [execOp_push] at he ⊢
        rw [pushOut_top he, buildKnown_lit _ _ _ hlim]
        exact ⟨_, rfl⟩
      · have hnop := (H.pushAt hp).nops t.ip (by omega) (by omega)
        rw [hi] at hnop; cases hnop
        have hjd : code[t.ip]? ≠ some (.op 0x5b) := by rw [hi]; simp
        exact (ht hjd).1 p n dta hp (by omega) (by omega)
    · intro p hp h1
      rw [hip] at h1
      have hpt : p = t.ip := by omega
      subst hpt
      rw [hi] at hp; cases hp
      rw [hd]
      unfold opOut at he ⊢
      rw [execOp_push0] at he ⊢
      rw [pushOut_top he, buildKnown_lit _ _ _ hlim]
      exact ⟨_, rfl⟩
  · -- arrived by a JUMP: stands behind a JUMPDEST
    have hjd : code[tgt]? = some (.op 0x5b) := execOp_jumpTo_jumpdest hj
    intro _
    constructor
    · intro p n dta hp h1 h2
      rw [hip] at h1 h2
      by_cases hpt : p = tgt
      · subst hpt; rw [hjd] at hp; cases hp
      · have hnop := (H.pushAt hp).nops tgt (by omega) (by omega)
        rw [hjd] at hnop; cases hnop
    · intro p hp h1
      rw [hip] at h1
      have hpt : p = tgt := by omega
      subst hpt; rw [hjd] at hp; cases hp
  · -- a forked child: stands on a JUMPDEST
    have hjd : code[tgt]? = some (.op 0x5b) := execOp_forkTo_jumpdest hf
    intro hne
    rw [hip] at hne
    exact absurd hjd hne

theorem linv_reach (H : Prog bytes code) (cfg : Cfg) (hlim : 1 ≤ cfg.valueLimit) :
    ∀ s, MReach cfg code s → ∀ t ∈ s.queue, LInv code t := by
  intro s hs
  induction hs with
  | init =>
    intro t ht
    simp only [initVM, List.mem_singleton] at ht
    subst ht
    intro _
    exact ⟨fun p n dta _ h1 _ => by simp at h1, fun p _ h1 => by simp at h1⟩
  | step _ ih => exact linv_step H cfg hlim ih

/-- the literal on top of the stack of a thread that stands, not on a JUMPDEST, right behind a push -/
theorem LInv.top_literal {code : List Instr} {t : Thread} (hL : LInv code t)
    (hjd : code[t.ip]? ≠ some (.op 0x5b)) {P : Nat → Prop} (hpre : PrecededByPush code t.ip P)
    {k : SV} {r : List SV} (hk : t.d.stack = k :: r) : ∃ w : Word, k = mkKnown w ∧ P w.toNat := by
  rcases hpre with ⟨p, n, dta, hp, hpn, hP⟩ | ⟨p, hp, hpn, hP⟩
  · obtain ⟨r', hr'⟩ := (hL hjd).1 p n dta hp (by omega) (by omega)
    rw [hr'] at hk; cases hk
    exact ⟨_, rfl, by rw [BitVec.toNat_ofNat]; exact hP⟩
  · obtain ⟨r', hr'⟩ := (hL hjd).2 p hp hpn
    rw [hr'] at hk; cases hk
    exact ⟨_, rfl, by simpa using hP⟩

theorem sideOK_of_guarded (H : Prog bytes code) (hg : PushGuarded code) (cfg : Cfg)
    (hlim : 1 ≤ cfg.valueLimit) : ∀ s, MReach cfg code s → SideOK code s := by
  intro s hs t rest ins hq hi
  have hL : LInv code t := linv_reach H cfg hlim s hs t (by rw [hq]; simp)
  cases ins with
  | nop => exact ⟨trivial, fun h => by rcases h with h | h <;> cases h⟩
  | push n dta => exact ⟨trivial, fun h => by rcases h with h | h <;> cases h⟩
  | invalid b => exact ⟨trivial, fun h => by rcases h with h | h <;> cases h⟩
  | op b =>
    have hG := hg t.ip b hi
    have top : ∀ P : Nat → Prop, b ≠ 0x5b → PrecededByPush code t.ip P →
        ∀ k r, t.d.stack = k :: r → ∃ w : Word, k = mkKnown w ∧ P w.toNat :=
      fun P hb hpre k r hk => hL.top_literal (by rw [hi]; intro h; cases h; exact hb rfl) hpre hk
    refine ⟨⟨?_, ?_⟩, ?_⟩
    · intro hb k r hk
      obtain ⟨w, hw, _⟩ := top _ (by omega) (hG.1 (by omega)) k r hk
      exact ⟨w, hw⟩
    · intro hb k r hk
      exact top _ (by omega) (hG.2 hb) k r hk
    · intro hb k r hk
      have hb' : b = 0x56 ∨ b = 0x57 := by
        rcases hb with h | h <;> cases h <;> simp
      obtain ⟨w, hw, _⟩ := top _ (by omega) (hG.1 (by omega)) k r hk
      rw [hw]; exact targetOK_mkKnown w

theorem inv_reach_guarded (H : Prog bytes code) (hsc : InScope bytes) (hg : PushGuarded code)
    (cfg : Cfg) (hlim : 1 ≤ cfg.valueLimit) : ∀ s, MReach cfg code s → Inv bytes code s :=
  inv_reach H hsc cfg (sideOK_of_guarded H hg cfg hlim)

/-- C08 soundness with no hypothesis on the run. -/
theorem executed_is_evm_reachable_guarded (H : Prog bytes code) (hsc : InScope bytes)
    (hg : PushGuarded code) (cfg : Cfg) (hlim : 1 ≤ cfg.valueLimit) (fuel : Nat) :
    ∀ t ∈ (run cfg code fuel (initVM cfg code)).queue ++ (run cfg code fuel (initVM cfg code)).stored,
      ∀ i ins, t.visited.getD i 0 ≠ 0 → code[i]? = some ins → ins ≠ .nop →
        ∃ cs, RReach (arr bytes) (dat bytes) (i, cs) :=
  executed_is_evm_reachable' H hsc cfg (sideOK_of_guarded H hg cfg hlim) _
    (mreach_run fuel _ MReach.init)

/-- C07 for stored threads with no hypothesis on the run. -/
theorem stored_state_matches_a_path_guarded (H : Prog bytes code) (hsc : InScope bytes)
    (hg : PushGuarded code) (cfg : Cfg) (hlim : 1 ≤ cfg.valueLimit) (fuel : Nat) :
    ∀ t ∈ (run cfg code fuel (initVM cfg code)).stored,
      ∃ pc cs k, RReach (arr bytes) (dat bytes) (pc, cs) ∧ Rel t.d (dropK k cs) :=
  stored_state_matches_a_path_partial H hsc cfg (sideOK_of_guarded H hg cfg hlim) _
    (mreach_run fuel _ MReach.init)

end syntactic

/-! ## why the stored threads are only related up to popped operands

`PUSH1 9; PUSH1 9; PUSH1 9; SSTORE; RETURN`: the RETURN underflows after popping its first operand;
the thread is stored with an empty stack and the write to slot 9, and no configuration the reference
machine reaches has both. -/

def cexBytes : List Nat := [0x60, 9, 0x60, 9, 0x60, 9, 0x55, 0xf3]
def cexCode : List Instr :=
  [.push 1 [9], .nop, .push 1 [9], .nop, .push 1 [9], .nop, .op 0x55, .op 0xf3]
def cexCfg : Cfg := ⟨1000, 10, 10, 100, 100, false⟩
def cexFinal : VMS := run cexCfg cexCode 8 (initVM cexCfg cexCode)

theorem cex_prog : Prog cexBytes cexCode := ⟨by decide, by decide, by rfl⟩

theorem cex_inScope : InScope cexBytes := by
  intro code h
  have h' : Disasm.disasm cexBytes = .ok cexCode := by rfl
  rw [h'] at h
  cases h
  intro ins hins
  simp only [cexCode, List.mem_cons, List.not_mem_nil, or_false] at hins
  rcases hins with rfl | rfl | rfl | rfl | rfl | rfl | rfl | rfl
  all_goals simp [InsOK, DataOp, scopeOps, aluOk]

theorem cex_guarded : PushGuarded cexCode := by
  intro i b hi
  rcases i with _ | _ | _ | _ | _ | _ | _ | _ | i
  all_goals simp [cexCode] at hi
  · subst hi
    exact ⟨fun _ => Or.inl ⟨4, 1, [9], rfl, rfl, trivial⟩, fun h => by omega⟩
  · subst hi
    exact ⟨fun h => by omega, fun h => by omega⟩

theorem cex_stored :
    cexFinal.stored.map (fun t => (t.d.stack.length,
        (lookupSV t.d.stK (mkKnown 9#256)).map (fun g => g.map asWord))) =
      [(0, some [some 9#256])] := by decide +kernel

/-- the configurations the reference machine reaches on this program -/
def cexQ (c : Conf) : Prop :=
  (c.1 = 0 ∧ c.2.stack = [] ∧ c.2.writes = []) ∨
  (c.1 = 2 ∧ c.2.stack = [9] ∧ c.2.writes = []) ∨
  (c.1 = 4 ∧ c.2.stack = [9, 9] ∧ c.2.writes = []) ∨
  (c.1 = 6 ∧ c.2.stack = [9, 9, 9] ∧ c.2.writes = []) ∨
  (c.1 = 7 ∧ c.2.stack = [9] ∧ c.2.writes = [(9, 9)])

theorem cexQ_step {a b : Conf} (hQ : cexQ a) (hs : RStep (arr cexBytes) (dat cexBytes) a b) :
    cexQ b := by
  -- the configurations stand on PUSH1, SSTORE or RETURN, so only a `data` step is possible
  have hbyte : (arr cexBytes)[a.1]! = 0x60 ∨ (arr cexBytes)[a.1]! = 0x55 ∨
      (arr cexBytes)[a.1]! = 0xf3 := by
    rcases hQ with h | h | h | h | h <;> rw [h.1] <;> decide
  cases hs with
  | @data pc s s' hpc h =>
    obtain ⟨st, mem, wr, vis⟩ := s
    rcases hQ with ⟨h1, h2, h3⟩ | ⟨h1, h2, h3⟩ | ⟨h1, h2, h3⟩ | ⟨h1, h2, h3⟩ | ⟨h1, h2, h3⟩ <;>
      (simp only at h1 h2 h3; subst h1 h2 h3; cases h)
    · exact Or.inr (Or.inl ⟨rfl, rfl, rfl⟩)
    · exact Or.inr (Or.inr (Or.inl ⟨rfl, rfl, rfl⟩))
    · exact Or.inr (Or.inr (Or.inr (Or.inl ⟨rfl, rfl, rfl⟩)))
    · exact Or.inr (Or.inr (Or.inr (Or.inr ⟨rfl, rfl, rfl⟩)))
  | push0 hpc hb h => simp only at hbyte; omega
  | jumpdest hpc hb => simp only at hbyte; omega
  | jump hpc hb hs hv => simp only at hbyte; omega
  | jumpiTaken hpc hb hs hv => simp only at hbyte; omega
  | jumpiFall hpc hb hs => simp only at hbyte; omega

theorem cex_reach {c : Conf} (h : RReach (arr cexBytes) (dat cexBytes) c) : cexQ c := by
  induction h with
  | init => exact Or.inl ⟨rfl, rfl, rfl⟩
  | step _ hs ih => exact cexQ_step ih hs

/-- `stored_state_matches_a_path_partial` with the plain relation `Rel` in place of `Weak` fails:
on an in-scope, push-guarded program (so that all side conditions hold) the run stores a thread
whose data is not `Rel`-related to the state of ANY reference-reachable configuration. -/
theorem stored_state_matches_a_path_counterexample :
    Prog cexBytes cexCode ∧ InScope cexBytes ∧ PushGuarded cexCode ∧ 1 ≤ cexCfg.valueLimit ∧
    ∃ t ∈ (run cexCfg cexCode 8 (initVM cexCfg cexCode)).stored,
      ¬ ∃ pc cs, RReach (arr cexBytes) (dat cexBytes) (pc, cs) ∧ Rel t.d cs := by
  refine ⟨cex_prog, cex_inScope, cex_guarded, by decide, ?_⟩
  have hs := cex_stored
  obtain ⟨t, ht⟩ : ∃ t, cexFinal.stored = [t] := by
    have : cexFinal.stored.length = 1 := by
      have := congrArg List.length hs; simpa using this
    exact List.length_eq_one_iff.mp this
  rw [ht] at hs
  simp only [List.map_cons, List.map_nil, List.cons.injEq, Prod.mk.injEq, and_true] at hs
  obtain ⟨hstack, hsto⟩ := hs
  have hstack' : t.d.stack = [] := List.eq_nil_of_length_eq_zero hstack
  refine ⟨t, by show t ∈ cexFinal.stored; rw [ht]; simp, ?_⟩
  rintro ⟨pc, cs, hr, _, hst, hstoR, _⟩
  rw [hstack'] at hst
  have hcs : cs.stack = [] := LRel_nil_left hst
  have hw : cs.writes = [] := by
    rcases cex_reach hr with ⟨_, _, h⟩ | ⟨_, h, _⟩ | ⟨_, h, _⟩ | ⟨_, h, _⟩ | ⟨_, h, _⟩
    · exact h
    all_goals (simp only at h; rw [hcs] at h; cases h)
  obtain ⟨pre, written, h1, h2, h3⟩ := hstoR 9#256
  rw [hw] at h3
  have hwr : written = [] := by
    cases written with
    | nil => rfl
    | cons v vs => simp [writesOf] at h3
  subst hwr
  rw [List.append_nil] at h1
  cases hl : lookupSV t.d.stK (mkKnown 9#256) with
  | none => rw [hl] at hsto; simp at hsto
  | some g =>
    rw [hl] at hsto h1
    simp only [Option.map_some, Option.some.injEq, Option.getD_some] at hsto h1
    rw [h1] at hsto
    rcases h2 with h2 | h2
    · rw [h2] at hsto; simp at hsto
    · rw [h2] at hsto
      simp [buildNoLimit, rebuild, asWord] at hsto

end SLE.PathSim

open SLE.PathSim
#print axioms explore_sound_for_RStep
#print axioms Bridge.fold_agree
#print axioms jump_sim_partial
#print axioms jump_sim_of_litOK
#print axioms queued_state_at_instruction
#print axioms jump_sim_counterexample
#print axioms jumpi_sim_partial
#print axioms halt_sim
#print axioms halt_outcome
#print axioms outcome
#print axioms inv_init
#print axioms inv_step
#print axioms inv_reach
#print axioms executed_is_evm_reachable'
#print axioms executed_is_evm_reachable
#print axioms queued_state_matches_a_path
#print axioms stored_state_matches_a_path_partial
#print axioms stored_state_matches_a_path_counterexample
#print axioms sideOK_of_guarded
#print axioms inv_reach_guarded
#print axioms executed_is_evm_reachable_guarded
#print axioms stored_state_matches_a_path_guarded
