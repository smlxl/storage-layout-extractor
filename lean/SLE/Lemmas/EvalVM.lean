import SLE.Model.Pipe
/-!
# The machine loop, in a form the kernel evaluates in time linear in the program

`VM.step` reads `code[ip]?` and `visited.getD (ip + 1)` and writes `visited.set ip`: three walks of
`ip` cells at every instruction, so that kernel evaluation of `VM.run` is quadratic in the length
of the program.  `Cursor` keeps the running thread's visit counters and the code split at its
`ip`; a step that merely moves on to the next instruction (`stepC`) then touches the heads of
three lists.  Every other step (jump, fork, fault, end of a thread) goes through `VM.step` itself.
`run_eq_runC` is what the table theorems rewrite with before they evaluate.
-/
namespace SLE.VM
open SLE SLE.Disasm

/-- A machine state with the running (first) thread's counters and the code split at its `ip`. -/
structure Cursor where
  s : VMS                -- the running thread's `visited` holds only the counters from `ip` on
  pre : List Nat         -- the counters below `ip`, nearest first
  cs : List Instr        -- the code from `ip` on

namespace Cursor

def ofVMS (code : List Instr) (s : VMS) : Cursor :=
  match s.queue with
  | [] => ⟨s, [], []⟩
  | t :: rest =>
    ⟨{ s with queue := { t with visited := t.visited.drop t.ip } :: rest },
     (t.visited.take t.ip).reverse, code.drop t.ip⟩

def toVMS (f : Cursor) : VMS :=
  match f.s.queue with
  | [] => f.s
  | t :: rest => { f.s with queue := { t with visited := f.pre.reverseAux t.visited } :: rest }

theorem toVMS_ofVMS (code : List Instr) (s : VMS) : (ofVMS code s).toVMS = s := by
  obtain ⟨q, _, _, _, _, _, _, _⟩ := s
  cases q with
  | nil => rfl
  | cons t rest =>
    simp [ofVMS, toVMS, List.reverseAux_eq]

end Cursor

/-- a step by way of `step` itself -/
def stepSlow (cfg : Cfg) (code : List Instr) (f : Cursor) : Cursor :=
  .ofVMS code (step cfg code f.toVMS)

/-- `step` on a split state: the straight-line case directly, everything else by `stepSlow`. -/
def stepC (cfg : Cfg) (code : List Instr) (f : Cursor) : Cursor :=
  match f.s.queue, f.cs with
  | t :: rest, ins :: cs' =>
    (match t.visited with
     | v :: vs =>
       let o := execOp { cfg := cfg, ip := t.ip, codeLen := code.length } code ins t.d f.s.ctr
       (match o.err, o.jumpTo, o.forkTo, o.softErr with
        | none, none, none, none =>
          let gas := t.gas + minGas ins
          if ((cs'.isEmpty || decide (vs.headD 0 ≥ cfg.iterLimit)) || decide (gas > cfg.gasLimit)) ||
              (f.s.killed || o.kill) then stepSlow cfg code f
          else
            ⟨{ f.s with queue := { ip := t.ip + 1, visited := vs, gas := gas, d := o.d } :: rest,
                        ctr := o.ctr, killed := f.s.killed || o.kill },
             (v + 1) :: f.pre, cs'⟩
        | _, _, _, _ => stepSlow cfg code f)
     | [] => stepSlow cfg code f)
  | _, _ => stepSlow cfg code f

def runC (cfg : Cfg) (code : List Instr) : Nat → Cursor → Cursor
  | 0, f => f
  | fuel + 1, f =>
    if f.s.queue.isEmpty || f.s.aborted.isSome then f else runC cfg code fuel (stepC cfg code f)

/-- what splitting a list at `i` says about its parts, when the part from `i` on is not empty -/
theorem split_of_drop {α : Type} {l : List α} {i : Nat} {v : α} {vs : List α} (h : l.drop i = v :: vs) :
    l = l.take i ++ v :: vs ∧ (l.take i).length = i := by
  have hl : i < l.length := by
    rcases Nat.lt_or_ge i l.length with h' | h'
    · exact h'
    · rw [List.drop_of_length_le h'] at h; cases h
  exact ⟨by rw [← h, List.take_append_drop], by rw [List.length_take]; omega⟩

theorem bump_at {p : List Nat} {i : Nat} (h : p.length = i) (v : Nat) (vs : List Nat) :
    bump (p ++ v :: vs) i = p ++ (v + 1) :: vs := by
  subst h; simp [bump]

theorem getD_after {p : List Nat} {i : Nat} (h : p.length = i) (x : Nat) (vs : List Nat) :
    (p ++ x :: vs).getD (i + 1) 0 = vs.headD 0 := by
  subst h; cases vs <;> simp [List.getD_eq_getElem?_getD]

/-- `step` where it only moves on to the next instruction -/
theorem step_straight {cfg : Cfg} {code : List Instr} {s : VMS} {t : Thread} {rest : List Thread}
    {ins : Instr} {cs' : List Instr} {v : Nat} {vs : List Nat} {o : OpOut}
    (hs : s.queue = t :: rest) (hcs : code.drop t.ip = ins :: cs') (hv : t.visited.drop t.ip = v :: vs)
    (ho : execOp { cfg := cfg, ip := t.ip, codeLen := code.length } code ins t.d s.ctr = o)
    (he : o.err = none) (hj : o.jumpTo = none) (hf : o.forkTo = none) (hso : o.softErr = none)
    (hc : (((cs'.isEmpty || decide (vs.headD 0 ≥ cfg.iterLimit)) ||
        decide (t.gas + minGas ins > cfg.gasLimit)) || (s.killed || o.kill)) = false) :
    step cfg code s =
      { s with queue := { ip := t.ip + 1, visited := t.visited.take t.ip ++ (v + 1) :: vs,
                          gas := t.gas + minGas ins, d := o.d } :: rest,
               ctr := o.ctr, killed := s.killed || o.kill } := by
  subst ho
  obtain ⟨hl, hlen⟩ := split_of_drop hv
  obtain ⟨hcl, hclen⟩ := split_of_drop hcs
  have hi : code[t.ip]? = some ins := by
    rw [hcl, List.getElem?_append_right (by omega), hclen, Nat.sub_self]; rfl
  unfold step
  simp only [hs, hi, he, hj, hf, hso]
  generalize t.visited.take t.ip = p at hl hlen ⊢
  generalize code.take t.ip = q at hcl hclen
  have hoob : decide (t.ip + 1 ≥ code.length) = cs'.isEmpty := by
    rw [hcl, List.length_append, hclen]; cases cs' <;> simp
  rw [hl, bump_at hlen]
  unfold advance
  simp only [getD_after hlen, hoob, hc, Bool.false_eq_true, if_false]

theorem stepC_ofVMS (cfg : Cfg) (code : List Instr) (s : VMS) :
    stepC cfg code (.ofVMS code s) = .ofVMS code (step cfg code s) := by
  have slow : stepSlow cfg code (.ofVMS code s) = .ofVMS code (step cfg code s) := by
    rw [stepSlow, Cursor.toVMS_ofVMS]
  rw [← slow]
  cases hs : s.queue with
  | nil => simp only [stepC, Cursor.ofVMS, hs]
  | cons t rest =>
    cases hcs : code.drop t.ip with
    | nil => simp only [stepC, Cursor.ofVMS, hs, hcs]
    | cons ins cs' =>
      cases hv : t.visited.drop t.ip with
      | nil => simp only [stepC, Cursor.ofVMS, hs, hcs, hv]
      | cons v vs =>
        have hof : Cursor.ofVMS code s = ⟨{ s with queue := { t with visited := v :: vs } :: rest },
            (t.visited.take t.ip).reverse, ins :: cs'⟩ := by simp only [Cursor.ofVMS, hs, hcs, hv]
        simp only [stepC, Cursor.ofVMS, hs, hcs, hv]
        split
        · rename_i he hj hf hso
          split
          · rfl
          · rename_i hc
            obtain ⟨_, hlen⟩ := split_of_drop hv
            rw [← hof, slow, step_straight hs hcs hv rfl he hj hf hso (by simpa using hc)]
            simp only [Cursor.ofVMS, ← List.tail_drop, hcs, List.tail_cons]
            generalize t.visited.take t.ip = p at hlen ⊢
            rw [List.drop_left' hlen, ← hlen, List.take_length_add_append]
            simp
        · rfl

theorem runC_ofVMS (cfg : Cfg) (code : List Instr) :
    ∀ (fuel : Nat) (s : VMS), runC cfg code fuel (.ofVMS code s) = .ofVMS code (run cfg code fuel s)
  | 0, _ => rfl
  | fuel + 1, s => by
    have hq : (Cursor.ofVMS code s).s.queue.isEmpty = s.queue.isEmpty := by
      unfold Cursor.ofVMS; split <;> simp [*]
    have ha : (Cursor.ofVMS code s).s.aborted = s.aborted := by
      unfold Cursor.ofVMS; split <;> rfl
    rw [runC, run, hq, ha]
    split
    · rfl
    · rw [stepC_ofVMS, runC_ofVMS cfg code fuel]

/-- `run` from the initial state, by way of the split loop -/
theorem run_eq_runC (cfg : Cfg) (code : List Instr) (fuel : Nat) :
    run cfg code fuel (initVM cfg code) = (runC cfg code fuel ⟨initVM cfg code, [], code⟩).toVMS := by
  have h : (⟨initVM cfg code, [], code⟩ : Cursor) = .ofVMS code (initVM cfg code) := rfl
  rw [h, runC_ofVMS, Cursor.toVMS_ofVMS]

end SLE.VM
