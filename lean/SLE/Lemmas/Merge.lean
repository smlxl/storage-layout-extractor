import SLE.Model.MergeLaws
/-!
C16 / C02 / C15 — algebraic laws of `unification::merge` on the `Equal`-free, packed-free
fragment, for every width, every variable index and every array length.
-/
namespace SLE.MergeLaws
open SLE SLE.Merge
set_option linter.unusedSimpArgs false

/-! ## `WordUse.merge` -/

theorem wordUse_merge_comm (a b : WordUse) : a.merge b = b.merge a := by
  cases a <;> cases b <;> rfl

theorem _root_.SLE.WordUse.mem_all (a : WordUse) : a ∈ WordUse.all := by
  cases a <;> simp [WordUse.all]

/-- A Boolean property of usages holds of all once it holds of the eight in `WordUse.all`. -/
theorem _root_.SLE.WordUse.forall_of_all {p : WordUse → Bool} (h : WordUse.all.all p = true) (a : WordUse) :
    p a = true :=
  List.all_eq_true.1 h a (WordUse.mem_all a)

theorem wordUse_merge_assoc (a b c : WordUse) :
    (a.merge b).bind (·.merge c) = (b.merge c).bind (a.merge ·) := by
  have h : (WordUse.all.all fun a => WordUse.all.all fun b => WordUse.all.all fun c =>
      decide ((a.merge b).bind (·.merge c) = (b.merge c).bind (a.merge ·))) = true := by
    decide +kernel
  exact of_decide_eq_true
    (WordUse.forall_of_all (WordUse.forall_of_all (WordUse.forall_of_all h a) b) c)

theorem wordUse_merge_idem (a : WordUse) : a.merge a = some a := by
  simp [WordUse.merge]

/-- A join is definitely signed iff one of its arguments is. -/
theorem wordUse_merge_signed (a b u : WordUse) (h : a.merge b = some u) :
    u.isDefinitelySigned = (a.isDefinitelySigned || b.isDefinitelySigned) := by
  cases a <;> cases b <;> simp [WordUse.merge] at h <;> subst h <;> rfl

/-! ## Width join and the word × word arm -/

def wjoin : Option Nat → Option Nat → Option (Option Nat)
  | some a, some b => if a = b then some (some a) else none
  | some a, none => some (some a)
  | none, some b => some (some b)
  | none, none => some none

theorem wjoin_comm (a b : Option Nat) : wjoin a b = wjoin b a := by
  cases a <;> cases b <;> simp [wjoin]
  rename_i x y
  by_cases h : x = y
  · subst h; simp
  · have h' : ¬ y = x := fun e => h e.symm
    simp [h, h']

theorem wjoin_idem (a : Option Nat) : wjoin a a = some a := by
  cases a <;> simp [wjoin]

theorem wjoin_assoc (a b c : Option Nat) :
    (wjoin a b).bind (wjoin · c) = (wjoin b c).bind (wjoin a ·) := by
  cases a <;> cases b <;> cases c <;> simp [wjoin]
  · rename_i x y
    by_cases h : x = y <;> simp [h, wjoin]
  · rename_i x y
    by_cases h : x = y <;> simp [h, wjoin]
  · rename_i x y z
    by_cases h1 : x = y <;> by_cases h2 : y = z <;> (try subst h1) <;> (try subst h2) <;>
      simp [wjoin, *]

/-- word × word: join the widths and the usages; `none` is a conflict. -/
def wj (w1 : Option Nat) (u1 : WordUse) (w2 : Option Nat) (u2 : WordUse) :
    Option (Option Nat × WordUse) :=
  (wjoin w1 w2).bind fun w => (u1.merge u2).bind fun u => some (w, u)

def toTE : Option (Option Nat × WordUse) → TE
  | some (w, u) => .word w u
  | none => .conflict

theorem wj_some_iff (w1 u1 w2 u2 w u) :
    wj w1 u1 w2 u2 = some (w, u) ↔ wjoin w1 w2 = some w ∧ u1.merge u2 = some u := by
  unfold wj
  cases wjoin w1 w2 <;> cases u1.merge u2 <;> simp

theorem wj_none_iff (w1 u1 w2 u2) :
    wj w1 u1 w2 u2 = none ↔ wjoin w1 w2 = none ∨ u1.merge u2 = none := by
  unfold wj
  cases wjoin w1 w2 <;> cases u1.merge u2 <;> simp

theorem wj_comm (w1 u1 w2 u2) : wj w1 u1 w2 u2 = wj w2 u2 w1 u1 := by
  simp [wj, wjoin_comm w1 w2, wordUse_merge_comm u1 u2]

theorem wj_idem (w u) : wj w u w u = some (w, u) := by
  simp [wj, wjoin_idem, wordUse_merge_idem]

/-- Joining pairs componentwise commutes with binding the components. -/
theorem pair_bind {α β : Type} (x : Option α) (y : Option β) (f : α → Option α) (g : β → Option β) :
    (x.bind fun a => y.bind fun b => some (a, b)).bind
        (fun p => (f p.1).bind fun a => (g p.2).bind fun b => some (a, b)) =
      (x.bind f).bind fun a => (y.bind g).bind fun b => some (a, b) := by
  cases x <;> cases y <;> simp

theorem wj_assoc (w1 u1 w2 u2 w3 u3) :
    (wj w1 u1 w2 u2).bind (fun p => wj p.1 p.2 w3 u3) =
    (wj w2 u2 w3 u3).bind (fun p => wj w1 u1 p.1 p.2) := by
  have l := pair_bind (wjoin w1 w2) (u1.merge u2) (wjoin · w3) (·.merge u3)
  have r := pair_bind (wjoin w2 w3) (u2.merge u3) (wjoin w1 ·) (u1.merge ·)
  rw [wjoin_assoc, wordUse_merge_assoc] at l
  exact l.trans r.symm

theorem wj_signed {w1 u1 w2 u2 w u} (h : wj w1 u1 w2 u2 = some (w, u)) :
    u.isDefinitelySigned = (u1.isDefinitelySigned || u2.isDefinitelySigned) := by
  unfold wj at h
  cases h1 : wjoin w1 w2 <;> cases h2 : u1.merge u2 <;> simp [h1, h2] at h
  exact h.2 ▸ wordUse_merge_signed _ _ _ h2

/-! ## Closed form of `merge` on the fragment -/

/-- The arms of `merge` that remain on the fragment, as a plain function (no `Except`, no
counter, no leading `if l = r`). -/
def outcomeN : TE → TE → Outcome
  | .conflict, _ => (.conflict, [])
  | _, .conflict => (.conflict, [])
  | .word w1 u1, .word w2 u2 => (toTE (wj w1 u1 w2 u2), [])
  | .word _ u, .bytes => (if u.isDefinitelySigned then .conflict else .bytes, [])
  | .bytes, .word _ u => (if u.isDefinitelySigned then .conflict else .bytes, [])
  | .bytes, .bytes => (.bytes, [])
  | .dynamicArray _, .bytes => (.bytes, [])
  | .bytes, .dynamicArray _ => (.bytes, [])
  | .word _ u, .dynamicArray e => (if u.isDefinitelySigned then .conflict else .dynamicArray e, [])
  | .dynamicArray e, .word _ u => (if u.isDefinitelySigned then .conflict else .dynamicArray e, [])
  | .dynamicArray a, .dynamicArray b => (.dynamicArray a, [(a, b)])
  | .fixedArray a la, .fixedArray b lb =>
    if la = lb then (.fixedArray a la, [(a, b)]) else (.conflict, [])
  | .mapping k1 v1, .mapping k2 v2 => (.mapping k1 v1, [(k1, k2), (v1, v2)])
  | x, .any => (x, [])
  | .any, x => (x, [])
  | _, _ => (.conflict, [])

/-- Exact closed form: equal inputs short-circuit. -/
def outcomeE (a b : TE) : Outcome := if a = b then (a, []) else outcomeN a b

theorem merge_closed (a b : TE) (ha : PF a = true) (hb : PF b = true) (p n : Nat) :
    merge a b p n = .ok { expr := (outcomeE a b).1, eqs := (outcomeE a b).2, next := n } := by
  unfold outcomeE merge
  by_cases h : a = b
  · simp [h, out]
  · simp only [h, if_false]
    cases a <;> simp [PF] at ha <;> cases b <;> simp [PF] at hb
    case word.word wl ul wr ur =>
      simp only [outcomeN]
      cases wl <;> cases wr <;> cases hm : ul.merge ur <;> simp [wj, wjoin, toTE, hm, out] <;>
        split <;> simp_all [toTE]
    all_goals simp [outcomeN, out] at h ⊢
    all_goals (try split) <;> try simp_all

theorem outcome_eq (a b : TE) (ha : PF a = true) (hb : PF b = true) :
    outcome a b = outcomeE a b := by
  simp [outcome, merge_closed a b ha hb]

/-- Where merging an expression with itself emits nothing, `outcome` is its normal form. -/
theorem outcome_eq_oN (a b : TE) (ha : PF a = true) (hb : PF b = true)
    (h : a = b → outcomeN a a = (a, [])) : outcome a b = outcomeN a b := by
  rw [outcome_eq a b ha hb]
  unfold outcomeE
  split
  · rename_i e; subst e; exact (h rfl).symm
  · rfl

theorem toTE_pf (o) : PF (toTE o) = true := by
  cases o <;> rfl

/-- `outcomeN` conflicts, returns one of its arguments, or joins two words. -/
theorem oN_select (a x : TE) (ha : PF a = true) (hx : PF x = true) :
    (outcomeN a x).1 = .conflict ∨ (outcomeN a x).1 = a ∨ (outcomeN a x).1 = x ∨
      ∃ w1 u1 w2 u2, a = .word w1 u1 ∧ x = .word w2 u2 := by
  cases a <;> simp [PF] at ha <;> cases x <;> simp [PF] at hx <;> simp only [outcomeN] <;>
    (try split) <;> simp

theorem outcomeN_pf (a b : TE) (ha : PF a = true) (hb : PF b = true) :
    PF (outcomeN a b).1 = true := by
  rcases oN_select a b ha hb with h | h | h | ⟨w1, u1, w2, u2, rfl, rfl⟩
  · rw [h]; rfl
  · rw [h]; exact ha
  · rw [h]; exact hb
  · exact toTE_pf _

/-- The fragment is closed under `merge`. -/
theorem outcome_pf (a b : TE) (ha : PF a = true) (hb : PF b = true) :
    PF (outcome a b).1 = true := by
  rw [outcome_eq a b ha hb]
  unfold outcomeE
  split
  · exact ha
  · exact outcomeN_pf a b ha hb

/-- On the fragment `merge` never faults (the two `panic!` arms are unreachable), ignores
`parent` and the counter, and emits no judgements and no new variables. -/
theorem merge_pf_indep (a b : TE) (ha : PF a = true) (hb : PF b = true) (p n : Nat) :
    ∃ m, merge a b p n = .ok m ∧ m.expr = (outcome a b).1 ∧ m.eqs = (outcome a b).2 ∧
      m.judgements = [] ∧ m.newVars = [] ∧ m.next = n := by
  refine ⟨_, merge_closed a b ha hb p n, ?_⟩
  simp [outcome_eq a b ha hb]

/-! ## Equivalence closures -/

theorem Equiv.mono {E1 E2 : List (Nat × Nat)} (h : ∀ p ∈ E1, Equiv E2 p.1 p.2) {x y : Nat}
    (e : Equiv E1 x y) : Equiv E2 x y := by
  induction e with
  | base hm => exact h _ hm
  | refl => exact .refl _
  | symm _ ih => exact ih.symm
  | trans _ _ ih1 ih2 => exact ih1.trans ih2

theorem Equiv.nil_eq {x y : Nat} (e : Equiv [] x y) : x = y := by
  induction e with
  | base hm => cases hm
  | refl => rfl
  | symm _ ih => exact ih.symm
  | trans _ _ ih1 ih2 => exact ih1.trans ih2

theorem Equiv.head {E : List (Nat × Nat)} {x y : Nat} : Equiv ((x, y) :: E) x y :=
  .base List.mem_cons_self

theorem Equiv.inl {q s : List (Nat × Nat)} {x y : Nat} (h : Equiv q x y) : Equiv (q ++ s) x y :=
  Equiv.mono (fun _ hp => .base (List.mem_append_left _ hp)) h

theorem Equiv.inr {q s : List (Nat × Nat)} {x y : Nat} (h : Equiv s x y) : Equiv (q ++ s) x y :=
  Equiv.mono (fun _ hp => .base (List.mem_append_right _ hp)) h

theorem Equiv.tail {E : List (Nat × Nat)} {p : Nat × Nat} {x y : Nat} (h : Equiv E x y) :
    Equiv (p :: E) x y :=
  Equiv.inr (q := [p]) h

/-- Two equality lists with the same closure. -/
def EqvL (E1 E2 : List (Nat × Nat)) : Prop := ∀ x y, Equiv E1 x y ↔ Equiv E2 x y

theorem EqvL.of_gens {E1 E2 : List (Nat × Nat)} (h1 : ∀ p ∈ E1, Equiv E2 p.1 p.2)
    (h2 : ∀ p ∈ E2, Equiv E1 p.1 p.2) : EqvL E1 E2 :=
  fun _ _ => ⟨Equiv.mono h1, Equiv.mono h2⟩

theorem EqvL.refl (E) : EqvL E E := fun _ _ => Iff.rfl

theorem EqvL.symm {E1 E2} (h : EqvL E1 E2) : EqvL E2 E1 := fun x y => (h x y).symm

theorem EqvL.append {A A' B B' : List (Nat × Nat)} (h1 : EqvL A A') (h2 : EqvL B B') :
    EqvL (A ++ B) (A' ++ B') := by
  apply EqvL.of_gens
  · intro p hp
    rcases List.mem_append.1 hp with hp | hp
    · exact Equiv.inl ((h1 _ _).1 (.base hp))
    · exact Equiv.inr ((h2 _ _).1 (.base hp))
  · intro p hp
    rcases List.mem_append.1 hp with hp | hp
    · exact Equiv.inl ((h1 _ _).2 (.base hp))
    · exact Equiv.inr ((h2 _ _).2 (.base hp))

/-- `ExprEqMod` looks at the equalities only between components under equal heads. -/
theorem ExprEqMod.mono {E E' : List (Nat × Nat)} (hE : ∀ x y, Equiv E x y → Equiv E' x y) {x y : TE}
    (h : ExprEqMod E x y) : ExprEqMod E' x y := by
  cases x with
  | fixedArray a la =>
    cases y with
    | fixedArray b lb => exact ⟨h.1, hE _ _ h.2⟩
    | _ => exact h
  | mapping k v =>
    cases y with
    | mapping k' v' => exact ⟨hE _ _ h.1, hE _ _ h.2⟩
    | _ => exact h
  | dynamicArray a =>
    cases y with
    | dynamicArray b => exact hE _ _ h
    | _ => exact h
  | _ => exact h

theorem ExprEqMod.congr {E1 E2} (h : EqvL E1 E2) (x y : TE) :
    ExprEqMod E1 x y ↔ ExprEqMod E2 x y :=
  ⟨ExprEqMod.mono fun a b => (h a b).1, ExprEqMod.mono fun a b => (h a b).2⟩

theorem ExprEqMod.refl (E) (x : TE) : ExprEqMod E x x := by
  cases x <;> simp [ExprEqMod, Equiv.refl]

theorem OutEq.congr {o1 o1' o2 o2' : Outcome} (e1 : o1.1 = o1'.1) (q1 : EqvL o1.2 o1'.2)
    (e2 : o2.1 = o2'.1) (q2 : EqvL o2.2 o2'.2) : OutEq o1 o2 ↔ OutEq o1' o2' := by
  unfold OutEq
  rw [e1, e2, ExprEqMod.congr q1]
  have : (∀ x y, Equiv o1.2 x y ↔ Equiv o2.2 x y) ↔ (∀ x y, Equiv o1'.2 x y ↔ Equiv o2'.2 x y) := by
    constructor
    · intro h x y; rw [← q1 x y, ← q2 x y]; exact h x y
    · intro h x y; rw [q1 x y, q2 x y]; exact h x y
  rw [this]

theorem OutEq.conf {o1 o2 : Outcome} (h1 : o1.1 = .conflict) (h2 : o2.1 = .conflict) : OutEq o1 o2 :=
  .inl ⟨h1, h2⟩

theorem OutEq.same {o1 o2 : Outcome} (h1 : o1.1 = o2.1) (h2 : EqvL o1.2 o2.2) : OutEq o1 o2 := by
  by_cases h : o1.1 = .conflict
  · exact .inl ⟨h, h1 ▸ h⟩
  · exact .inr ⟨h, h1 ▸ h, h2, h1 ▸ ExprEqMod.refl _ _⟩

/-! ## `outcome` versus its normal form -/

theorem outcomeN_self_fst (a : TE) (ha : PF a = true) : (outcomeN a a).1 = a := by
  cases a <;> simp [PF] at ha <;> simp [outcomeN, wj_idem, toTE]

theorem outcomeN_self_snd (a : TE) (ha : PF a = true) : EqvL [] (outcomeN a a).2 := by
  cases a <;> simp [PF] at ha <;> simp [outcomeN, EqvL.refl] <;>
    (apply EqvL.of_gens <;> simp [Equiv.refl])

theorem outcome_fst (a b : TE) (ha : PF a = true) (hb : PF b = true) :
    (outcome a b).1 = (outcomeN a b).1 := by
  rw [outcome_eq a b ha hb]; unfold outcomeE
  split
  · rename_i h; subst h; exact (outcomeN_self_fst a ha).symm
  · rfl

theorem outcome_snd (a b : TE) (ha : PF a = true) (hb : PF b = true) :
    EqvL (outcome a b).2 (outcomeN a b).2 := by
  rw [outcome_eq a b ha hb]; unfold outcomeE
  split
  · rename_i h; subst h; exact outcomeN_self_snd a ha
  · exact EqvL.refl _

/-- The groupings `(a ⊔ b) ⊔ c` and `a ⊔ (b ⊔ c)` of `groupL` and `groupR`, with `outcomeN` for
`outcome`. -/
def gL (a b c : TE) : Outcome :=
  ((outcomeN (outcomeN a b).1 c).1, (outcomeN a b).2 ++ (outcomeN (outcomeN a b).1 c).2)

def gR (a b c : TE) : Outcome :=
  ((outcomeN a (outcomeN b c).1).1, (outcomeN b c).2 ++ (outcomeN a (outcomeN b c).1).2)

theorem groupL_fst (a b c : TE) (ha : PF a = true) (hb : PF b = true) (hc : PF c = true) :
    (groupL a b c).1 = (gL a b c).1 := by
  show (outcome (outcome a b).1 c).1 = _
  rw [outcome_fst _ _ (outcome_pf a b ha hb) hc, outcome_fst a b ha hb]; rfl

theorem groupL_snd (a b c : TE) (ha : PF a = true) (hb : PF b = true) (hc : PF c = true) :
    EqvL (groupL a b c).2 (gL a b c).2 := by
  show EqvL ((outcome a b).2 ++ (outcome (outcome a b).1 c).2) _
  refine EqvL.append (outcome_snd a b ha hb) ?_
  have := outcome_snd _ _ (outcome_pf a b ha hb) hc
  rw [outcome_fst a b ha hb] at this ⊢
  exact this

theorem groupR_fst (a b c : TE) (ha : PF a = true) (hb : PF b = true) (hc : PF c = true) :
    (groupR a b c).1 = (gR a b c).1 := by
  show (outcome a (outcome b c).1).1 = _
  rw [outcome_fst _ _ ha (outcome_pf b c hb hc), outcome_fst b c hb hc]; rfl

theorem groupR_snd (a b c : TE) (ha : PF a = true) (hb : PF b = true) (hc : PF c = true) :
    EqvL (groupR a b c).2 (gR a b c).2 := by
  show EqvL ((outcome b c).2 ++ (outcome a (outcome b c).1).2) _
  refine EqvL.append (outcome_snd b c hb hc) ?_
  have := outcome_snd _ _ ha (outcome_pf b c hb hc)
  rw [outcome_fst b c hb hc] at this ⊢
  exact this

/-! ## Commutativity -/

theorem forall_mem_cons' {α} {P : α → Prop} {x : α} {xs : List α} :
    (∀ p ∈ x :: xs, P p) ↔ P x ∧ ∀ p ∈ xs, P p := List.forall_mem_cons

theorem forall_mem_nil' {α} {P : α → Prop} : (∀ p ∈ ([] : List α), P p) ↔ True := by simp

theorem eqvL_swap (E : List (Nat × Nat)) : EqvL E (E.map Prod.swap) := by
  apply EqvL.of_gens
  · exact fun p hp => .symm (.base (List.mem_map.2 ⟨p, hp, rfl⟩))
  · intro p hp
    obtain ⟨q, hq, rfl⟩ := List.mem_map.1 hp
    exact .symm (.base hq)

theorem commN (a b : TE) (ha : PF a = true) (hb : PF b = true) :
    OutEq (outcomeN a b) (outcomeN b a) := by
  cases a <;> simp [PF] at ha <;> cases b <;> simp [PF] at hb
  case word.word =>
    simp only [outcomeN]; rw [wj_comm]; exact OutEq.same rfl (EqvL.refl _)
  case dynamicArray.dynamicArray x y =>
    exact .inr ⟨nofun, nofun, eqvL_swap _, Equiv.head⟩
  case mapping.mapping k1 v1 k2 v2 =>
    exact .inr ⟨nofun, nofun, eqvL_swap _, Equiv.head, Equiv.head.tail⟩
  case fixedArray.fixedArray x lx y ly =>
    simp only [outcomeN]
    by_cases h : lx = ly
    · subst h
      simp only [↓reduceIte]
      exact .inr ⟨nofun, nofun, eqvL_swap _, rfl, Equiv.head⟩
    · rw [if_neg h, if_neg (Ne.symm h)]
      exact OutEq.conf rfl rfl
  all_goals exact OutEq.same rfl (EqvL.refl _)

theorem merge_comm (a b : TE) (ha : PF a = true) (hb : PF b = true) :
    OutEq (outcome a b) (outcome b a) :=
  (OutEq.congr (outcome_fst a b ha hb) (outcome_snd a b ha hb)
    (outcome_fst b a hb ha) (outcome_snd b a hb ha)).2 (commN a b ha hb)

/-! ## Associativity -/

def conflictsN (a b : TE) : Bool := (outcomeN a b).1 == .conflict

def BadN (a b c : TE) : Bool :=
  (absorber a && nsWord b && nsWord c && conflictsN b c) ||
  (absorber c && nsWord a && nsWord b && conflictsN a b) ||
  (match a, b, c with
   | .bytes, .dynamicArray x, .dynamicArray y => x != y
   | .dynamicArray x, .dynamicArray y, .bytes => x != y
   | _, _, _ => false)

theorem conflicts_eq (a b : TE) (ha : PF a = true) (hb : PF b = true) :
    conflicts a b = conflictsN a b := by
  simp only [conflicts, conflictsN, outcome_fst a b ha hb]

theorem Bad_eq (a b c : TE) (ha : PF a = true) (hb : PF b = true) (hc : PF c = true) :
    Bad a b c = BadN a b c := by
  simp only [Bad, BadN, conflicts_eq a b ha hb, conflicts_eq b c hb hc]
  rfl

theorem BadN_of1 {a b c : TE} (h1 : absorber a = true) (h2 : nsWord b = true) (h3 : nsWord c = true)
    (h4 : conflictsN b c = true) : BadN a b c = true := by
  simp [BadN, h1, h2, h3, h4]

theorem BadN_of2 {a b c : TE} (h1 : absorber c = true) (h2 : nsWord a = true) (h3 : nsWord b = true)
    (h4 : conflictsN a b = true) : BadN a b c = true := by
  simp [BadN, h1, h2, h3, h4]

theorem BadN_of3 {p q : Nat} (h : p ≠ q) : BadN .bytes (.dynamicArray p) (.dynamicArray q) = true := by
  simp [BadN, absorber, nsWord, h]

theorem BadN_of4 {p q : Nat} (h : p ≠ q) : BadN (.dynamicArray p) (.dynamicArray q) .bytes = true := by
  simp [BadN, absorber, nsWord, h]

/-- A word can only head a bad triple as the first of two words swallowed by `z`. -/
theorem BadN_word (w u) (y z : TE) : BadN (.word w u) y z =
    (absorber z && nsWord (.word w u) && nsWord y && conflictsN (.word w u) y) :=
  Bool.or_false _

theorem BadN_conflict (y z : TE) : BadN .conflict y z = false := by
  simp [BadN, absorber, nsWord]

def okW : Option (Option Nat × WordUse) → Bool
  | some (_, u) => !u.isDefinitelySigned
  | none => false

theorem okW_wj (w1 u1 w2 u2) : okW (wj w1 u1 w2 u2) =
    ((wj w1 u1 w2 u2).isSome && !u1.isDefinitelySigned && !u2.isDefinitelySigned) := by
  cases h : wj w1 u1 w2 u2 with
  | none => rfl
  | some p =>
    obtain ⟨w, u⟩ := p
    simp [okW, wj_signed h, Bool.and_assoc]

theorem okW_none : okW none = false := rfl

theorem toTE_eq_conflict (o) : toTE o = .conflict ↔ o = none := by
  cases o <;> simp [toTE]

/-! ### Evaluation lemmas for `outcomeN` (one per pair of constructors) -/

theorem oN_any_l (x : TE) : outcomeN .any x = (x, []) := by cases x <;> rfl
theorem oN_any_r (x : TE) : outcomeN x .any = (x, []) := by cases x <;> rfl
theorem oN_conf_l (x : TE) : outcomeN .conflict x = (.conflict, []) := by cases x <;> rfl
theorem oN_conf_r (x : TE) : outcomeN x .conflict = (.conflict, []) := by cases x <;> rfl
theorem oN_WW (w1 u1 w2 u2) : outcomeN (.word w1 u1) (.word w2 u2) = (toTE (wj w1 u1 w2 u2), []) := rfl
theorem oN_WB (w1 u1) : outcomeN (.word w1 u1) .bytes = (if u1.isDefinitelySigned then .conflict else .bytes, []) := rfl
theorem oN_WF (w1 u1 e2 l2) : outcomeN (.word w1 u1) (.fixedArray e2 l2) = (.conflict, []) := rfl
theorem oN_WM (w1 u1 k2 v2) : outcomeN (.word w1 u1) (.mapping k2 v2) = (.conflict, []) := rfl
theorem oN_WD (w1 u1 e2) : outcomeN (.word w1 u1) (.dynamicArray e2) = (if u1.isDefinitelySigned then .conflict else .dynamicArray e2, []) := rfl
theorem oN_BW (w2 u2) : outcomeN .bytes (.word w2 u2) = (if u2.isDefinitelySigned then .conflict else .bytes, []) := rfl
theorem oN_BB : outcomeN .bytes .bytes = (.bytes, []) := rfl
theorem oN_BF (e2 l2) : outcomeN .bytes (.fixedArray e2 l2) = (.conflict, []) := rfl
theorem oN_BM (k2 v2) : outcomeN .bytes (.mapping k2 v2) = (.conflict, []) := rfl
theorem oN_BD (e2) : outcomeN .bytes (.dynamicArray e2) = (.bytes, []) := rfl
theorem oN_FW (e1 l1 w2 u2) : outcomeN (.fixedArray e1 l1) (.word w2 u2) = (.conflict, []) := rfl
theorem oN_FB (e1 l1) : outcomeN (.fixedArray e1 l1) .bytes = (.conflict, []) := rfl
theorem oN_FF (e1 l1 e2 l2) : outcomeN (.fixedArray e1 l1) (.fixedArray e2 l2) = (if l1 = l2 then (.fixedArray e1 l1, [(e1, e2)]) else (.conflict, [])) := rfl
theorem oN_FM (e1 l1 k2 v2) : outcomeN (.fixedArray e1 l1) (.mapping k2 v2) = (.conflict, []) := rfl
theorem oN_FD (e1 l1 e2) : outcomeN (.fixedArray e1 l1) (.dynamicArray e2) = (.conflict, []) := rfl
theorem oN_MW (k1 v1 w2 u2) : outcomeN (.mapping k1 v1) (.word w2 u2) = (.conflict, []) := rfl
theorem oN_MB (k1 v1) : outcomeN (.mapping k1 v1) .bytes = (.conflict, []) := rfl
theorem oN_MF (k1 v1 e2 l2) : outcomeN (.mapping k1 v1) (.fixedArray e2 l2) = (.conflict, []) := rfl
theorem oN_MM (k1 v1 k2 v2) : outcomeN (.mapping k1 v1) (.mapping k2 v2) = (.mapping k1 v1, [(k1, k2), (v1, v2)]) := rfl
theorem oN_MD (k1 v1 e2) : outcomeN (.mapping k1 v1) (.dynamicArray e2) = (.conflict, []) := rfl
theorem oN_DW (e1 w2 u2) : outcomeN (.dynamicArray e1) (.word w2 u2) = (if u2.isDefinitelySigned then .conflict else .dynamicArray e1, []) := rfl
theorem oN_DB (e1) : outcomeN (.dynamicArray e1) .bytes = (.bytes, []) := rfl
theorem oN_DF (e1 e2 l2) : outcomeN (.dynamicArray e1) (.fixedArray e2 l2) = (.conflict, []) := rfl
theorem oN_DM (e1 k2 v2) : outcomeN (.dynamicArray e1) (.mapping k2 v2) = (.conflict, []) := rfl
theorem oN_DD (e1 e2) : outcomeN (.dynamicArray e1) (.dynamicArray e2) = (.dynamicArray e1, [(e1, e2)]) := rfl

theorem outcome_any_l (x : TE) (hx : PF x = true) : outcome .any x = (x, []) :=
  (outcome_eq_oN .any x rfl hx fun _ => rfl).trans (oN_any_l x)

theorem outcome_any_r (x : TE) (hx : PF x = true) : outcome x .any = (x, []) :=
  (outcome_eq_oN x .any hx rfl fun h => by subst h; rfl).trans (oN_any_r x)

theorem outcome_conf_l (x : TE) (hx : PF x = true) : outcome .conflict x = (.conflict, []) :=
  (outcome_eq_oN .conflict x rfl hx fun _ => rfl).trans (oN_conf_l x)

theorem outcome_conf_r (x : TE) (hx : PF x = true) : outcome x .conflict = (.conflict, []) :=
  (outcome_eq_oN x .conflict hx rfl fun h => by subst h; rfl).trans (oN_conf_r x)

theorem outcome_WW (w1 u1 w2 u2) :
    outcome (.word w1 u1) (.word w2 u2) = (toTE (wj w1 u1 w2 u2), []) :=
  outcome_eq_oN _ _ rfl rfl fun _ => by rw [oN_WW, wj_idem]; rfl

theorem signed_signedNumeric : WordUse.signedNumeric.isDefinitelySigned = true := rfl

theorem outN_toTE_any (o) : outcomeN (toTE o) .any = (toTE o, []) := by
  rcases o with _ | ⟨w, u⟩ <;> rfl
theorem outN_any_toTE (o) : outcomeN .any (toTE o) = (toTE o, []) := by
  rcases o with _ | ⟨w, u⟩ <;> rfl
theorem outN_toTE_conflict (o) : outcomeN (toTE o) .conflict = (.conflict, []) := by
  rcases o with _ | ⟨w, u⟩ <;> rfl
theorem outN_toTE_fixed (o e l) : outcomeN (toTE o) (.fixedArray e l) = (.conflict, []) := by
  rcases o with _ | ⟨w, u⟩ <;> rfl
theorem outN_fixed_toTE (o e l) : outcomeN (.fixedArray e l) (toTE o) = (.conflict, []) := by
  rcases o with _ | ⟨w, u⟩ <;> rfl
theorem outN_toTE_mapping (o k v) : outcomeN (toTE o) (.mapping k v) = (.conflict, []) := by
  rcases o with _ | ⟨w, u⟩ <;> rfl
theorem outN_mapping_toTE (o k v) : outcomeN (.mapping k v) (toTE o) = (.conflict, []) := by
  rcases o with _ | ⟨w, u⟩ <;> rfl
theorem outN_toTE_bytes (o) :
    outcomeN (toTE o) .bytes = (if okW o then .bytes else .conflict, []) := by
  rcases o with _ | ⟨w, u⟩ <;> simp [toTE, outcomeN, okW]
  cases u.isDefinitelySigned <;> simp
theorem outN_bytes_toTE (o) :
    outcomeN .bytes (toTE o) = (if okW o then .bytes else .conflict, []) := by
  rcases o with _ | ⟨w, u⟩ <;> simp [toTE, outcomeN, okW]
  cases u.isDefinitelySigned <;> simp
theorem outN_toTE_dyn (o e) :
    outcomeN (toTE o) (.dynamicArray e) = (if okW o then .dynamicArray e else .conflict, []) := by
  rcases o with _ | ⟨w, u⟩ <;> simp [toTE, outcomeN, okW]
  cases u.isDefinitelySigned <;> simp
theorem outN_dyn_toTE (o e) :
    outcomeN (.dynamicArray e) (toTE o) = (if okW o then .dynamicArray e else .conflict, []) := by
  rcases o with _ | ⟨w, u⟩ <;> simp [toTE, outcomeN, okW]
  cases u.isDefinitelySigned <;> simp
theorem outN_toTE_word (o w u) :
    outcomeN (toTE o) (.word w u) = (toTE (o.bind fun p => wj p.1 p.2 w u), []) := by
  rcases o with _ | ⟨w', u'⟩ <;> rfl
theorem outN_word_toTE (o w u) :
    outcomeN (.word w u) (toTE o) = (toTE (o.bind fun p => wj w u p.1 p.2), []) := by
  rcases o with _ | ⟨w', u'⟩ <;> rfl


/-! ### Ideals and units

Three facts about `outcomeN` carry associativity.  Some sets of expressions are *ideals*: merging
a member with anything, on either side, gives a member.  A triple with a member of each of two
ideals that meet only in `conflict` is a conflict in both groupings.  And an expression may be a
*unit* on an ideal, merging into its members without trace (`any` on everything, a non-signed
word on `bytes` and dynamic arrays); a unit can be dropped from either grouping. -/

/-- A set of expressions closed under merging with anything on the fragment, on either side. -/
def Ideal (I : TE → Prop) : Prop :=
  ∀ a x, PF a = true → PF x = true → I a → I (outcomeN a x).1 ∧ I (outcomeN x a).1

theorem Ideal.left {I : TE → Prop} (hI : Ideal I) {a b c : TE} (ha : PF a = true) (hb : PF b = true)
    (hc : PF c = true) (h : I a ∨ I b ∨ I c) : I (gL a b c).1 := by
  have hab := outcomeN_pf a b ha hb
  rcases h with h | h | h
  · exact (hI _ c hab hc (hI a b ha hb h).1).1
  · exact (hI _ c hab hc (hI b a hb ha h).2).1
  · exact (hI c _ hc hab h).2

theorem Ideal.right {I : TE → Prop} (hI : Ideal I) {a b c : TE} (ha : PF a = true) (hb : PF b = true)
    (hc : PF c = true) (h : I a ∨ I b ∨ I c) : I (gR a b c).1 := by
  have hbc := outcomeN_pf b c hb hc
  rcases h with h | h | h
  · exact (hI a _ ha hbc h).1
  · exact (hI _ a hbc ha (hI b c hb hc h).1).2
  · exact (hI _ a hbc ha (hI c b hc hb h).2).2

theorem assoc_of_ideals {I J : TE → Prop} (hI : Ideal I) (hJ : Ideal J)
    (hIJ : ∀ x, I x → J x → x = .conflict) {a b c : TE} (ha : PF a = true) (hb : PF b = true)
    (hc : PF c = true) (hi : I a ∨ I b ∨ I c) (hj : J a ∨ J b ∨ J c) :
    OutEq (gL a b c) (gR a b c) :=
  OutEq.conf (hIJ _ (hI.left ha hb hc hi) (hJ.left ha hb hc hj))
    (hIJ _ (hI.right ha hb hc hi) (hJ.right ha hb hc hj))

theorem gL_eq {a b e : TE} {q : List (Nat × Nat)} (c : TE) (h : outcomeN a b = (e, q)) :
    gL a b c = ((outcomeN e c).1, q ++ (outcomeN e c).2) := by
  unfold gL; rw [h]

theorem gR_eq {b c e : TE} {q : List (Nat × Nat)} (a : TE) (h : outcomeN b c = (e, q)) :
    gR a b c = ((outcomeN a e).1, q ++ (outcomeN a e).2) := by
  unfold gR; rw [h]

/-- `u` merges into every member of `J` leaving it as it is and emitting nothing. -/
def UnitOn (u : TE) (J : TE → Prop) : Prop :=
  ∀ y, J y → outcomeN u y = (y, []) ∧ outcomeN y u = (y, [])

theorem assoc_unit_l {J : TE → Prop} (hJ : Ideal J) {a b c : TE} (hb : PF b = true)
    (hc : PF c = true) (hu : UnitOn a J) (hJb : J b) : OutEq (gL a b c) (gR a b c) := by
  rw [gL_eq c (hu b hJb).1]
  unfold gR
  rw [(hu _ (hJ b c hb hc hJb).1).1]
  refine OutEq.same rfl ?_
  show EqvL (outcomeN b c).2 ((outcomeN b c).2 ++ [])
  rw [List.append_nil]; exact EqvL.refl _

theorem assoc_unit_m {J : TE → Prop} {a b c : TE} (hu : UnitOn b J) (hJa : J a) (hJc : J c) :
    OutEq (gL a b c) (gR a b c) := by
  rw [gL_eq c (hu a hJa).2, gR_eq a (hu c hJc).1]
  exact OutEq.same rfl (EqvL.refl _)

theorem assoc_unit_r {J : TE → Prop} (hJ : Ideal J) {a b c : TE} (ha : PF a = true)
    (hb : PF b = true) (hu : UnitOn c J) (hJb : J b) : OutEq (gL a b c) (gR a b c) := by
  rw [gR_eq a (hu b hJb).2]
  unfold gL
  rw [(hu _ (hJ b a hb ha hJb).2).2]
  refine OutEq.same rfl ?_
  show EqvL ((outcomeN a b).2 ++ []) (outcomeN a b).2
  rw [List.append_nil]; exact EqvL.refl _

theorem ideal_univ : Ideal fun _ => True := fun _ _ _ _ _ => ⟨trivial, trivial⟩

theorem unit_any : UnitOn .any fun _ => True := fun y _ => ⟨oN_any_l y, oN_any_r y⟩

theorem ideal_conflict : Ideal (· = .conflict) := by
  intro a x _ _ h
  subst h
  exact ⟨by rw [oN_conf_l], by rw [oN_conf_r]⟩

/-! ### Rigid kinds: mappings, fixed arrays of one length -/

/-- A kind `K` of expressions that merges only with itself and `any`: merging a `K` gives a `K`
or a conflict, and merging something that is neither a `K` nor `any` gives neither. -/
structure Rigid (K : TE → Bool) : Prop where
  own : Ideal fun x => K x = true ∨ x = .conflict
  other : Ideal fun x => (K x || x == .any) = false

def isMapping : TE → Bool
  | .mapping _ _ => true
  | _ => false

def isFixed (n : Nat) : TE → Bool
  | .fixedArray _ m => m == n
  | _ => false

theorem isMapping_iff {x : TE} : isMapping x = true ↔ ∃ k v, x = .mapping k v := by
  cases x <;> simp [isMapping]

theorem isFixed_iff {n : Nat} {x : TE} : isFixed n x = true ↔ ∃ e, x = .fixedArray e n := by
  cases x <;> simp [isFixed]

theorem isMapping_toTE (o) : isMapping (toTE o) = false := by
  rcases o with _ | ⟨w, u⟩ <;> rfl

theorem isFixed_toTE (n o) : isFixed n (toTE o) = false := by
  rcases o with _ | ⟨w, u⟩ <;> rfl

theorem toTE_ne_any (o) : (toTE o == TE.any) = false := by
  rcases o with _ | ⟨w, u⟩ <;> rfl

theorem rigid_mapping : Rigid isMapping := by
  refine ⟨?_, ?_⟩
  · rintro a x _ hx (h | rfl)
    · obtain ⟨k, v, rfl⟩ := isMapping_iff.1 h
      cases x <;> simp [PF] at hx <;> simp [outcomeN, isMapping]
    · simp [oN_conf_l, oN_conf_r]
  · intro a x ha hx h
    cases a <;> simp [PF] at ha <;> simp [isMapping] at h <;>
      cases x <;> simp [PF] at hx <;>
      simp only [outcomeN, isMapping_toTE, toTE_ne_any] <;> (try split) <;> (try split) <;>
      simp [isMapping]

theorem rigid_fixed (n : Nat) : Rigid (isFixed n) := by
  refine ⟨?_, ?_⟩
  · rintro a x _ hx (h | rfl)
    · obtain ⟨e, rfl⟩ := isFixed_iff.1 h
      cases x <;> simp [PF] at hx
      case fixedArray e' m =>
        rw [oN_FF, oN_FF]
        by_cases hm : n = m
        · subst hm; simp [isFixed]
        · simp [hm, Ne.symm hm]
      all_goals simp [outcomeN, isFixed]
    · simp [oN_conf_l, oN_conf_r]
  · intro a x ha hx h
    cases a <;> simp [PF] at ha <;> simp [isFixed] at h <;> cases x <;> simp [PF] at hx
    case fixedArray.fixedArray e m e' m' =>
      rw [oN_FF, oN_FF]
      by_cases hm : m = m'
      · subst hm; simp [isFixed, h]
      · simp [hm, Ne.symm hm, isFixed]
    all_goals
      simp only [outcomeN, isFixed_toTE, toTE_ne_any] <;> (try split) <;> simp [isFixed, *]

/-- A triple with a member of a rigid kind and no `any`: all three are of the kind, or both
groupings conflict. -/
theorem assoc_rigid {K : TE → Bool} (hK : Rigid K)
    (hKKK : ∀ a b c, K a = true → K b = true → K c = true → OutEq (gL a b c) (gR a b c))
    {a b c : TE} (ha : PF a = true) (hb : PF b = true) (hc : PF c = true) (hna : a ≠ .any)
    (hnb : b ≠ .any) (hnc : c ≠ .any) (h : K a = true ∨ K b = true ∨ K c = true) :
    OutEq (gL a b c) (gR a b c) := by
  by_cases hall : K a = true ∧ K b = true ∧ K c = true
  · exact hKKK a b c hall.1 hall.2.1 hall.2.2
  · have other : ∀ x, x ≠ .any → ¬ K x = true → (K x || x == .any) = false := fun x hx hk => by
      rw [Bool.eq_false_iff.2 hk, Bool.false_or]; exact beq_eq_false_iff_ne.2 hx
    refine assoc_of_ideals hK.own hK.other (fun x h1 h2 => h1.resolve_left fun hk => ?_) ha hb hc
      (h.imp .inl (.imp .inl .inl)) ?_
    · rw [hk] at h2; cases h2
    · by_cases ka : K a = true
      · by_cases kb : K b = true
        · exact .inr (.inr (other c hnc fun kc => hall ⟨ka, kb, kc⟩))
        · exact .inr (.inl (other b hnb kb))
      · exact .inl (other a hna ka)

/-! ### Components are equated the same way in both groupings -/

/-- Equating `y` and `z` to `x`, or `z` to `y` and then `y` to `x`. -/
theorem eqvL_star (x y z : Nat) : EqvL ([(x, y)] ++ [(x, z)]) ([(y, z)] ++ [(x, y)]) := by
  apply EqvL.of_gens <;>
    simp only [forall_mem_cons', forall_mem_nil', and_true, List.nil_append, List.cons_append]
  · exact ⟨Equiv.head.tail, Equiv.head.tail.trans Equiv.head⟩
  · exact ⟨Equiv.head.symm.trans Equiv.head.tail, Equiv.head⟩

theorem assoc_FFF (n : Nat) (a b c : TE) (ha : isFixed n a = true) (hb : isFixed n b = true)
    (hc : isFixed n c = true) : OutEq (gL a b c) (gR a b c) := by
  obtain ⟨x, rfl⟩ := isFixed_iff.1 ha
  obtain ⟨y, rfl⟩ := isFixed_iff.1 hb
  obtain ⟨z, rfl⟩ := isFixed_iff.1 hc
  have e : ∀ p q, outcomeN (.fixedArray p n) (.fixedArray q n) = (.fixedArray p n, [(p, q)]) :=
    fun p q => by rw [oN_FF, if_pos rfl]
  rw [gL_eq _ (e x y), gR_eq _ (e y z), e, e]
  exact OutEq.same rfl (eqvL_star x y z)

theorem assoc_MMM (a b c : TE) (ha : isMapping a = true) (hb : isMapping b = true)
    (hc : isMapping c = true) : OutEq (gL a b c) (gR a b c) := by
  obtain ⟨k1, v1, rfl⟩ := isMapping_iff.1 ha
  obtain ⟨k2, v2, rfl⟩ := isMapping_iff.1 hb
  obtain ⟨k3, v3, rfl⟩ := isMapping_iff.1 hc
  refine OutEq.same rfl ?_
  show EqvL ([(k1, k2), (v1, v2)] ++ [(k1, k3), (v1, v3)]) ([(k2, k3), (v2, v3)] ++ [(k1, k2), (v1, v2)])
  apply EqvL.of_gens <;>
    simp only [forall_mem_cons', forall_mem_nil', and_true, List.nil_append, List.cons_append]
  · exact ⟨Equiv.head.tail.tail, Equiv.head.tail.tail.tail,
      Equiv.head.tail.tail.trans Equiv.head, Equiv.head.tail.tail.tail.trans Equiv.head.tail⟩
  · exact ⟨Equiv.head.symm.trans Equiv.head.tail.tail,
      Equiv.head.tail.symm.trans Equiv.head.tail.tail.tail, Equiv.head, Equiv.head.tail⟩

/-! ### Words, `bytes` and dynamic arrays -/

/-- a word whose usage is definitely signed -/
def sgWord : TE → Bool
  | .word _ u => u.isDefinitelySigned
  | _ => false

theorem word_of_nsWord {x : TE} (h : nsWord x = true) :
    ∃ w u, x = .word w u ∧ u.isDefinitelySigned = false := by
  cases x <;> simp [nsWord] at h
  exact ⟨_, _, rfl, h⟩

theorem word_of_sgWord {x : TE} (h : sgWord x = true) :
    ∃ w u, x = .word w u ∧ u.isDefinitelySigned = true := by
  cases x <;> simp [sgWord] at h
  exact ⟨_, _, rfl, h⟩

theorem absorber_iff {x : TE} : absorber x = true ↔ x = .bytes ∨ ∃ e, x = .dynamicArray e := by
  cases x <;> simp [absorber]

theorem word_of {x : TE} (h : nsWord x = true ∨ sgWord x = true) : ∃ w u, x = .word w u :=
  h.elim (fun h => let ⟨w, u, e, _⟩ := word_of_nsWord h; ⟨w, u, e⟩)
    (fun h => let ⟨w, u, e, _⟩ := word_of_sgWord h; ⟨w, u, e⟩)

theorem assoc_words {a b c : TE} (ha : ∃ w u, a = .word w u) (hb : ∃ w u, b = .word w u)
    (hc : ∃ w u, c = .word w u) : OutEq (gL a b c) (gR a b c) := by
  obtain ⟨w1, u1, rfl⟩ := ha
  obtain ⟨w2, u2, rfl⟩ := hb
  obtain ⟨w3, u3, rfl⟩ := hc
  rw [gL_eq _ (oN_WW ..), gR_eq _ (oN_WW ..), outN_toTE_word, outN_word_toTE, wj_assoc]
  exact OutEq.same rfl (EqvL.refl _)

theorem ideal_signed : Ideal fun x => sgWord x = true ∨ x = .conflict := by
  rintro a x _ hx (h | rfl)
  · obtain ⟨w, u, rfl, hs⟩ := word_of_sgWord h
    cases x <;> simp [PF] at hx <;> simp [outcomeN, sgWord, hs]
    case word w' u' =>
      have e : ∀ o : Option (Option Nat × WordUse),
          (∀ w u, o = some (w, u) → u.isDefinitelySigned = true) →
          sgWord (toTE o) = true ∨ toTE o = .conflict := by
        rintro (_ | ⟨w, u⟩) ho
        · exact .inr rfl
        · exact .inl (ho w u rfl)
      exact ⟨e _ fun _ _ ho => by rw [wj_signed ho, hs, Bool.true_or],
        e _ fun _ _ ho => by rw [wj_signed ho, hs, Bool.or_true]⟩
  · simp [oN_conf_l, oN_conf_r]

theorem ideal_absorber : Ideal fun x => absorber x = true ∨ x = .conflict := by
  rintro a x _ hx (h | rfl)
  · rcases absorber_iff.1 h with rfl | ⟨e, rfl⟩ <;>
      cases x <;> simp [PF] at hx <;> simp only [outcomeN] <;> (try split) <;> simp [absorber]
  · simp [oN_conf_l, oN_conf_r]

/-- A word that is not definitely signed disappears into `bytes` and dynamic arrays. -/
theorem unit_nsWord {u : TE} (h : nsWord u = true) :
    UnitOn u fun y => absorber y = true ∨ y = .conflict := by
  obtain ⟨w, us, rfl, hs⟩ := word_of_nsWord h
  rintro y (hy | rfl)
  · rcases absorber_iff.1 hy with rfl | ⟨e, rfl⟩ <;> simp [outcomeN, hs]
  · exact ⟨oN_conf_r _, oN_conf_l _⟩

theorem toTE_beq (o : Option (Option Nat × WordUse)) : (toTE o == TE.conflict) = !o.isSome := by
  rcases o with _ | ⟨w, u⟩ <;> simp [toTE]

theorem conflictsN_WW (w1 u1 w2 u2) :
    conflictsN (.word w1 u1) (.word w2 u2) = !(wj w1 u1 w2 u2).isSome := by
  simp only [conflictsN, oN_WW, toTE_beq]

theorem nsWord_join {b c : TE} (hb : nsWord b = true) (hc : nsWord c = true)
    (h : conflictsN b c = false) : ∃ e, outcomeN b c = (e, []) ∧ nsWord e = true := by
  obtain ⟨w2, u2, rfl, h2⟩ := word_of_nsWord hb
  obtain ⟨w3, u3, rfl, h3⟩ := word_of_nsWord hc
  rw [conflictsN_WW] at h
  cases hw : wj w2 u2 w3 u3 with
  | none => rw [hw] at h; cases h
  | some p =>
    refine ⟨.word p.1 p.2, by rw [oN_WW, hw]; rfl, ?_⟩
    show (!p.2.isDefinitelySigned) = true
    rw [wj_signed hw, h2, h3]; rfl

/-- An absorber meets two compatible non-signed words: their merge disappears into it as each
of them does. -/
theorem assoc_sww {a b c : TE} (ha : absorber a = true) (hb : nsWord b = true)
    (hc : nsWord c = true) (h : conflictsN b c = false) : OutEq (gL a b c) (gR a b c) := by
  obtain ⟨e, he, hne⟩ := nsWord_join hb hc h
  have hJ : absorber a = true ∨ a = .conflict := .inl ha
  rw [gL_eq c (unit_nsWord hb a hJ).2, gR_eq a he, (unit_nsWord hc a hJ).2,
    (unit_nsWord hne a hJ).2]
  exact OutEq.same rfl (EqvL.refl _)

theorem assoc_wws {a b c : TE} (ha : nsWord a = true) (hb : nsWord b = true)
    (hc : absorber c = true) (h : conflictsN a b = false) : OutEq (gL a b c) (gR a b c) := by
  obtain ⟨e, he, hne⟩ := nsWord_join ha hb h
  have hJ : absorber c = true ∨ c = .conflict := .inl hc
  rw [gL_eq c he, gR_eq a (unit_nsWord hb c hJ).1, (unit_nsWord hne c hJ).1,
    (unit_nsWord ha c hJ).1]
  exact OutEq.same rfl (EqvL.refl _)

/-- Three absorbers: `bytes` wins, and only `bytes` before two dynamic arrays (or after them)
loses the equation between their elements. -/
theorem assoc_sss {a b c : TE} (ha : absorber a = true) (hb : absorber b = true)
    (hc : absorber c = true) (hB : BadN a b c = false) : OutEq (gL a b c) (gR a b c) := by
  have eqv : ∀ x : Nat, EqvL [] [(x, x)] := fun x =>
    EqvL.of_gens (fun _ h => nomatch h) (by simp [Equiv.refl])
  rcases absorber_iff.1 ha with rfl | ⟨x, rfl⟩ <;> rcases absorber_iff.1 hb with rfl | ⟨y, rfl⟩ <;>
    rcases absorber_iff.1 hc with rfl | ⟨z, rfl⟩
  case inl.inr.inr =>
    have : y = z := Decidable.of_not_not fun hne => Bool.eq_false_iff.1 hB (BadN_of3 hne)
    subst this
    exact OutEq.same rfl (eqv y)
  case inr.inr.inl =>
    have : x = y := Decidable.of_not_not fun hne => Bool.eq_false_iff.1 hB (BadN_of4 hne)
    subst this
    exact OutEq.same rfl (EqvL.symm (eqv x))
  case inr.inr.inr => exact OutEq.same rfl (eqvL_star x y z)
  all_goals exact OutEq.same rfl (EqvL.refl _)

/-- The cases into which `assocB` splits each of its three expressions. -/
theorem shape (x : TE) (h : PF x = true) :
    x = .any ∨ x = .conflict ∨ isMapping x = true ∨ (∃ n, isFixed n x = true) ∨
      nsWord x = true ∨ sgWord x = true ∨ absorber x = true := by
  cases x <;> simp [PF] at h <;> simp [isMapping, isFixed, nsWord, sgWord, absorber]

/-- Outside `Bad`, the two groupings agree. -/
theorem assocB (a b c : TE) (ha : PF a = true) (hb : PF b = true) (hc : PF c = true)
    (hB : BadN a b c = false) : OutEq (gL a b c) (gR a b c) := by
  by_cases h1 : a = .any
  · subst h1; exact assoc_unit_l ideal_univ hb hc unit_any trivial
  by_cases h2 : b = .any
  · subst h2; exact assoc_unit_m unit_any trivial trivial
  by_cases h3 : c = .any
  · subst h3; exact assoc_unit_r ideal_univ ha hb unit_any trivial
  by_cases hC : a = .conflict ∨ b = .conflict ∨ c = .conflict
  · exact assoc_of_ideals ideal_conflict ideal_conflict (fun _ h _ => h) ha hb hc hC hC
  by_cases hM : isMapping a = true ∨ isMapping b = true ∨ isMapping c = true
  · exact assoc_rigid rigid_mapping assoc_MMM ha hb hc h1 h2 h3 hM
  by_cases hF : ∃ n, isFixed n a = true ∨ isFixed n b = true ∨ isFixed n c = true
  · obtain ⟨n, hF⟩ := hF
    exact assoc_rigid (rigid_fixed n) (assoc_FFF n) ha hb hc h1 h2 h3 hF
  -- what is left is made of words, `bytes` and dynamic arrays
  have rest : ∀ x, PF x = true → x ≠ .any → (x = a ∨ x = b ∨ x = c) →
      nsWord x = true ∨ sgWord x = true ∨ absorber x = true := by
    intro x hx hn hm
    rcases shape x hx with h | h | h | ⟨n, h⟩ | h
    · exact absurd h hn
    · exact absurd (by rcases hm with rfl | rfl | rfl <;> simp [h]) hC
    · exact absurd (by rcases hm with rfl | rfl | rfl <;> simp [h]) hM
    · exact absurd ⟨n, by rcases hm with rfl | rfl | rfl <;> simp [h]⟩ hF
    · exact h
  have ca := rest a ha h1 (.inl rfl)
  have cb := rest b hb h2 (.inr (.inl rfl))
  have cc := rest c hc h3 (.inr (.inr rfl))
  by_cases hS : sgWord a = true ∨ sgWord b = true ∨ sgWord c = true
  · by_cases hA : absorber a = true ∨ absorber b = true ∨ absorber c = true
    · -- a definitely signed word conflicts with an absorber, wherever the two meet
      refine assoc_of_ideals ideal_signed ideal_absorber (fun x h1 h2 => h1.resolve_left fun hs => ?_)
        ha hb hc (hS.imp .inl (.imp .inl .inl)) (hA.imp .inl (.imp .inl .inl))
      obtain ⟨w, u, rfl, _⟩ := word_of_sgWord hs
      exact h2.elim (fun h => nomatch h) (fun h => nomatch h)
    · exact assoc_words (word_of (ca.imp_right (·.resolve_right fun h => hA (.inl h))))
        (word_of (cb.imp_right (·.resolve_right fun h => hA (.inr (.inl h)))))
        (word_of (cc.imp_right (·.resolve_right fun h => hA (.inr (.inr h)))))
  · -- non-signed words are units on the absorbers
    have hJ : ∀ {x : TE}, absorber x = true → absorber x = true ∨ x = .conflict := .inl
    have nB := Bool.eq_false_iff.1 hB
    rcases ca.imp_right (·.resolve_left fun h => hS (.inl h)) with wa | sa <;>
      rcases cb.imp_right (·.resolve_left fun h => hS (.inr (.inl h))) with wb | sb <;>
      rcases cc.imp_right (·.resolve_left fun h => hS (.inr (.inr h))) with wc | sc
    · exact assoc_words (word_of (.inl wa)) (word_of (.inl wb)) (word_of (.inl wc))
    · exact assoc_wws wa wb sc (Bool.eq_false_iff.2 fun h => nB (BadN_of2 sc wa wb h))
    · exact assoc_unit_l ideal_absorber hb hc (unit_nsWord wa) (hJ sb)
    · exact assoc_unit_l ideal_absorber hb hc (unit_nsWord wa) (hJ sb)
    · exact assoc_sww sa wb wc (Bool.eq_false_iff.2 fun h => nB (BadN_of1 sa wb wc h))
    · exact assoc_unit_m (unit_nsWord wb) (hJ sa) (hJ sc)
    · exact assoc_unit_r ideal_absorber ha hb (unit_nsWord wc) (hJ sb)
    · exact assoc_sss sa sb sc hB

theorem OutEq.conflict_iff {o1 o2 : Outcome} (h : OutEq o1 o2) :
    o1.1 = .conflict ↔ o2.1 = .conflict := by
  rcases h with ⟨h1, h2⟩ | ⟨h1, h2, _⟩
  · exact ⟨fun _ => h2, fun _ => h1⟩
  · exact ⟨fun h => absurd h h1, fun h => absurd h h2⟩

/-- Inside `Bad`, the two groupings differ. -/
theorem badN_not (a b c : TE) (h : BadN a b c = true) : ¬ OutEq (gL a b c) (gR a b c) := by
  unfold BadN at h
  simp only [Bool.or_eq_true, Bool.and_eq_true] at h
  rcases h with (⟨⟨⟨h1, h2⟩, h3⟩, h4⟩ | ⟨⟨⟨h1, h2⟩, h3⟩, h4⟩) | h
  · -- an absorber swallows two conflicting non-signed words one by one, but not their merge
    intro he
    have hJ : absorber a = true ∨ a = .conflict := .inl h1
    have hL : (gL a b c).1 = a := by
      rw [gL_eq c (unit_nsWord h2 a hJ).2, (unit_nsWord h3 a hJ).2]
    have hR : (gR a b c).1 = .conflict := by
      show (outcomeN a (outcomeN b c).1).1 = _
      rw [eq_of_beq h4, oN_conf_r]
    have : a = .conflict := hL.symm.trans (he.conflict_iff.2 hR)
    subst this
    cases h1
  · intro he
    have hJ : absorber c = true ∨ c = .conflict := .inl h1
    have hL : (gL a b c).1 = .conflict := by
      show (outcomeN (outcomeN a b).1 c).1 = _
      rw [eq_of_beq h4, oN_conf_l]
    have hR : (gR a b c).1 = c := by
      rw [gR_eq a (unit_nsWord h3 c hJ).1, (unit_nsWord h2 c hJ).1]
    have : c = .conflict := hR.symm.trans (he.conflict_iff.1 hL)
    subst this
    cases h1
  · -- `bytes` forgets the element of the one dynamic array it meets
    split at h
    · rename_i x y
      have hxy : x ≠ y := by simpa using h
      rintro (⟨h, _⟩ | ⟨_, _, hq, _⟩)
      · cases (h : TE.bytes = TE.conflict)
      · have hq' : EqvL ([] ++ []) ([(x, y)] ++ []) := hq
        exact hxy ((hq' x y).2 Equiv.head).nil_eq
    · rename_i x y
      have hxy : x ≠ y := by simpa using h
      rintro (⟨h, _⟩ | ⟨_, _, hq, _⟩)
      · cases (h : TE.bytes = TE.conflict)
      · have hq' : EqvL ([(x, y)] ++ []) ([] ++ []) := hq
        exact hxy ((hq' x y).1 Equiv.head).nil_eq
    · cases h

/-- Associativity, exactly characterised: the two groupings of three pieces of evidence agree
(up to conflict wording and choice of representatives) iff the triple is not in `Bad`. -/
theorem merge_assoc_iff (a b c : TE) (ha : PF a = true) (hb : PF b = true) (hc : PF c = true) :
    OutEq (groupL a b c) (groupR a b c) ↔ Bad a b c = false := by
  rw [OutEq.congr (groupL_fst a b c ha hb hc) (groupL_snd a b c ha hb hc)
    (groupR_fst a b c ha hb hc) (groupR_snd a b c ha hb hc), Bad_eq a b c ha hb hc]
  constructor
  · intro h
    cases hB : BadN a b c
    · rfl
    · exact absurd h (badN_not a b c hB)
  · exact assocB a b c ha hb hc

theorem merge_assoc_partial (a b c : TE) (ha : PF a = true) (hb : PF b = true) (hc : PF c = true)
    (h : Bad a b c = false) : OutEq (groupL a b c) (groupR a b c) :=
  (merge_assoc_iff a b c ha hb hc).2 h

end SLE.MergeLaws
