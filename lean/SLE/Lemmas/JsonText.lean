/-
Round-trip proofs for the JSON text layer (`SLE/Model/JsonText.lean`): string escaping,
`parse ∘ render`, `parseSlot ∘ renderSlot`, injectivity of the printers.  Core only.
-/
import SLE.Model.JsonText
import SLE.Lemmas.Json

namespace SLE.JsonText
open SLE.JsonModel

/-! ### Decimal numbers -/

theorem digitChar_toNat (d : Nat) (h : d < 10) : (digitChar d).toNat = 48 + d := by
  have key : ∀ i : Fin 10, (digitChar i.val).toNat = 48 + i.val := by decide
  exact key ⟨d, h⟩

theorem isDigit_digitChar (d : Nat) (h : d < 10) : isDigit (digitChar d) = true := by
  simp [isDigit, digitChar_toNat d h]; omega

theorem digitChar_ne_zero (d : Nat) (h : d < 10) (h0 : d ≠ 0) : digitChar d ≠ '0' := by
  have key : ∀ i : Fin 10, i.val ≠ 0 → digitChar i.val ≠ '0' := by decide
  exact key ⟨d, h⟩ h0

/-- What may follow a value in the input without being glued to it: anything but a digit. -/
def okRest : List Char → Prop
  | [] => True
  | c :: _ => isDigit c = false

theorem readDigits_okRest (rest : List Char) (acc : Nat) (h : okRest rest) :
    readDigits rest acc = (acc, rest) := by
  cases rest with
  | nil => rfl
  | cons c cs => simp only [okRest] at h; simp [readDigits, h]

theorem readDigits_natDigits (fuel n : Nat) (h : n < fuel) :
    ∃ k, ∀ acc rest, readDigits (natDigits fuel n ++ rest) acc = readDigits rest (acc * k + n) := by
  induction fuel generalizing n with
  | zero => omega
  | succ f ih =>
    unfold natDigits
    split
    · rename_i hn
      refine ⟨10, fun acc rest => ?_⟩
      simp [readDigits, isDigit_digitChar n hn, digitChar_toNat n hn]
    · rename_i hn
      obtain ⟨k, hk⟩ := ih (n / 10) (by omega)
      have hd : n % 10 < 10 := Nat.mod_lt _ (by decide)
      refine ⟨k * 10, fun acc rest => ?_⟩
      rw [List.append_assoc, hk]
      simp only [List.singleton_append, readDigits, isDigit_digitChar _ hd, if_true,
        digitChar_toNat _ hd]
      congr 1
      rw [Nat.add_mul, Nat.mul_assoc]
      omega

theorem natDigits_head (fuel n : Nat) (h : n < fuel) (h0 : n ≠ 0) :
    ∃ c tl, natDigits fuel n = c :: tl ∧ isDigit c = true ∧ c ≠ '0' := by
  induction fuel generalizing n with
  | zero => omega
  | succ f ih =>
    unfold natDigits
    split
    · rename_i hn
      exact ⟨digitChar n, [], rfl, isDigit_digitChar n hn, digitChar_ne_zero n hn h0⟩
    · rename_i hn
      obtain ⟨c, tl, e, hc, hc0⟩ := ih (n / 10) (by omega) (by omega)
      exact ⟨c, tl ++ [digitChar (n % 10)], by rw [e]; rfl, hc, hc0⟩

theorem renderNat_zero : renderNat 0 = ['0'] := by decide

theorem isWs_of_isDigit (c : Char) (h : isDigit c = true) : isWs c = false := by
  simp only [isDigit, Bool.and_eq_true, decide_eq_true_eq] at h
  simp only [isWs, Bool.or_eq_false_iff, decide_eq_false_iff_not]
  refine ⟨⟨⟨?_, ?_⟩, ?_⟩, ?_⟩ <;> (rintro rfl; revert h; decide)

/-! ### Strings -/

theorem hex4_low (n : Nat) (h : n < 32) :
    hex4 '0' '0' (hexChar (n / 16)) (hexChar (n % 16)) = some (Char.ofNat n) := by
  have key : ∀ i : Fin 32,
      hex4 '0' '0' (hexChar (i.val / 16)) (hexChar (i.val % 16)) = some (Char.ofNat i.val) := by
    decide +kernel
  exact key ⟨n, h⟩

theorem escapeChar_cases (c : Char) :
    (∃ e, e ≠ 'u' ∧ unescChar e = some c ∧ escapeChar c = ['\\', e]) ∨
    (c.toNat < 0x20 ∧
      escapeChar c = ['\\', 'u', '0', '0', hexChar (c.toNat / 16), hexChar (c.toNat % 16)]) ∨
    (c ≠ '"' ∧ c ≠ '\\' ∧ ¬ c.toNat < 0x20 ∧ escapeChar c = [c]) := by
  have two {e : Char} {n : Nat} (hu : e ≠ 'u') (he : unescChar e = some (Char.ofNat n))
      (hn : c.toNat = n) (h : escapeChar c = ['\\', e]) :
      ∃ e, e ≠ 'u' ∧ unescChar e = some c ∧ escapeChar c = ['\\', e] :=
    ⟨e, hu, by rwa [← hn, Char.ofNat_toNat] at he, h⟩
  -- `hE` is peeled one `if` at a time (`split` on the whole chain is slow to check)
  have hE := escapeChar.eq_1 c
  by_cases h1 : c = '"'
  · rw [if_pos h1] at hE; exact .inl ⟨_, by decide, by rw [h1]; rfl, hE⟩
  rw [if_neg h1] at hE
  by_cases h2 : c = '\\'
  · rw [if_pos h2] at hE; exact .inl ⟨_, by decide, by rw [h2]; rfl, hE⟩
  rw [if_neg h2] at hE
  by_cases h3 : c.toNat = 0x08
  · rw [if_pos h3] at hE; exact .inl (two (by decide) rfl h3 hE)
  rw [if_neg h3] at hE
  by_cases h4 : c.toNat = 0x0C
  · rw [if_pos h4] at hE; exact .inl (two (by decide) rfl h4 hE)
  rw [if_neg h4] at hE
  by_cases h5 : c.toNat = 0x0A
  · rw [if_pos h5] at hE; exact .inl (two (by decide) rfl h5 hE)
  rw [if_neg h5] at hE
  by_cases h6 : c.toNat = 0x0D
  · rw [if_pos h6] at hE; exact .inl (two (by decide) rfl h6 hE)
  rw [if_neg h6] at hE
  by_cases h7 : c.toNat = 0x09
  · rw [if_pos h7] at hE; exact .inl (two (by decide) rfl h7 hE)
  rw [if_neg h7] at hE
  by_cases h8 : c.toNat < 0x20
  · rw [if_pos h8] at hE; exact .inr (.inl ⟨h8, hE⟩)
  · rw [if_neg h8] at hE; exact .inr (.inr ⟨h1, h2, h8, hE⟩)

theorem strBody_escapeChar (c : Char) (f : Nat) (tail : List Char) :
    strBody (f + 1) (escapeChar c ++ tail) = consChar c (strBody f tail) := by
  rcases escapeChar_cases c with ⟨e, hu, he, hc⟩ | ⟨hlt, hc⟩ | ⟨h1, h2, h3, hc⟩ <;> rw [hc]
  · simp [strBody, hu, he]
  · simp [strBody, hex4_low _ hlt]
  · simp [strBody, h1, h2, h3]

theorem escapeChar_length_pos (c : Char) : 1 ≤ (escapeChar c).length := by
  rcases escapeChar_cases c with ⟨e, _, _, hc⟩ | ⟨_, hc⟩ | ⟨_, _, _, hc⟩ <;> simp [hc]

theorem length_le_escape (cs : List Char) : cs.length ≤ (escape cs).length := by
  induction cs with
  | nil => simp [escape]
  | cons c cs ih =>
    have := escapeChar_length_pos c
    simp only [escape, List.length_append, List.length_cons]
    omega

theorem strBody_escape (cs : List Char) (fuel : Nat) (rest : List Char) (h : cs.length < fuel) :
    strBody fuel (escape cs ++ '"' :: rest) = some (cs, rest) := by
  induction cs generalizing fuel with
  | nil =>
    cases fuel with
    | zero => simp at h
    | succ f => simp [escape, strBody]
  | cons c cs ih =>
    cases fuel with
    | zero => simp at h
    | succ f =>
      simp only [List.length_cons, Nat.add_lt_add_iff_right] at h
      simp only [escape, List.append_assoc, strBody_escapeChar, ih f h, consChar]

theorem unescape_escape (cs rest : List Char) :
    parseStrBody (escape cs ++ '"' :: rest) = some (cs, rest) := by
  unfold parseStrBody
  apply strBody_escape
  have := length_le_escape cs
  simp only [List.length_append, List.length_cons]
  omega

/-! ### Values: first character of the printed text -/

theorem skipWs_cons_of_not_ws (c : Char) (l : List Char) (h : isWs c = false) :
    skipWs (c :: l) = c :: l := by
  simp [skipWs, h]

theorem parseValue_num (n f : Nat) (rest : List Char) (hr : okRest rest) :
    parseValue (f + 1) (renderNat n ++ rest) = some (.num n, rest) := by
  by_cases h0 : n = 0
  · subst h0
    simp [renderNat_zero, parseValue, skipWs, isWs, isDigit]
  · obtain ⟨c, tl, e, hc, hc0⟩ := natDigits_head (n + 1) n (by omega) h0
    obtain ⟨k, hk⟩ := readDigits_natDigits (n + 1) n (by omega)
    have hrd := hk 0 rest
    rw [readDigits_okRest rest _ hr] at hrd
    simp only [renderNat] at *
    rw [e] at hrd ⊢
    simp only [List.cons_append] at hrd ⊢
    simp only [parseValue, skipWs_cons_of_not_ws c _ (isWs_of_isDigit c hc), hc, if_true, hc0,
      if_false, hrd]
    simp

theorem render_head (j : Json) :
    ∃ c tl, render j = c :: tl ∧ isWs c = false ∧ c ≠ ']' := by
  cases j with
  | null => exact ⟨'n', ['u', 'l', 'l'], by simp [render], by decide, by decide⟩
  | num n =>
    by_cases h0 : n = 0
    · subst h0; exact ⟨'0', [], by simp [render, renderNat_zero], by decide, by decide⟩
    · obtain ⟨c, tl, e, hc, _⟩ := natDigits_head (n + 1) n (by omega) h0
      refine ⟨c, tl, by simp [render, renderNat, e], isWs_of_isDigit c hc, ?_⟩
      rintro rfl; revert hc; decide
  | str s => exact ⟨'"', escape s.toList ++ ['"'], by simp [render], by decide, by decide⟩
  | arr items => exact ⟨'[', renderItems items ++ [']'], by simp [render], by decide, by decide⟩
  | obj fields => exact ⟨'{', renderFields fields ++ ['}'], by simp [render], by decide, by decide⟩

theorem skipWs_render (j : Json) (rest : List Char) :
    skipWs (render j ++ rest) = render j ++ rest := by
  obtain ⟨c, tl, e, hc, _⟩ := render_head j
  rw [e]; exact skipWs_cons_of_not_ws c _ hc

theorem head_render_ne (j : Json) (rest : List Char) :
    (render j ++ rest).head? ≠ some ']' := by
  obtain ⟨c, tl, e, _, hc⟩ := render_head j
  rw [e]; simpa using hc

theorem render_length_pos (j : Json) : 1 ≤ (render j).length := by
  obtain ⟨c, tl, e, _, _⟩ := render_head j
  rw [e]; simp

theorem renderItems_cons (v : Json) (vs : List Json) (hvs : vs ≠ []) :
    renderItems (v :: vs) = render v ++ ',' :: renderItems vs := by
  simp [renderItems, hvs]

theorem renderFields_cons (k : String) (v : Json) (fs : List (String × Json)) (hfs : fs ≠ []) :
    renderFields ((k, v) :: fs) =
      '"' :: (escape k.toList ++ '"' :: ':' :: (render v ++ ',' :: renderFields fs)) := by
  simp [renderFields, hfs]

/-! ### parse ∘ render -/

mutual
/-- Stated with a remainder `rest` that does not start with a digit and for any fuel of at least
the length of the text: the form the induction through array items and object fields needs. -/
theorem parseValue_render : ∀ (j : Json) (fuel : Nat) (rest : List Char),
    (render j).length ≤ fuel → okRest rest →
    parseValue fuel (render j ++ rest) = some (j, rest)
  | .null, fuel, rest, hf, _ => by
    cases fuel with
    | zero => simp [render] at hf
    | succ f => simp [render, parseValue, skipWs, isWs, isDigit]
  | .num n, fuel, rest, hf, hr => by
    cases fuel with
    | zero => have := render_length_pos (.num n); omega
    | succ f => simpa [render] using parseValue_num n f rest hr
  | .str s, fuel, rest, hf, _ => by
    cases fuel with
    | zero => simp [render] at hf
    | succ f =>
      simp [render, parseValue, skipWs, isWs, isDigit, unescape_escape, String.ofList_toList]
  | .arr items, fuel, rest, hf, _ => by
    cases fuel with
    | zero => simp [render] at hf
    | succ f =>
      by_cases hi : items = []
      · subst hi
        simp [render, renderItems, parseValue, skipWs, isWs, isDigit]
      · have hrec := parseItems_render items f rest hi (by
          simp only [render, List.length_cons, List.length_append, List.length_nil] at hf
          omega)
        obtain ⟨v, vs, rfl⟩ := List.exists_cons_of_ne_nil hi
        have hne : (skipWs (renderItems (v :: vs) ++ ']' :: rest)).head? ≠ some ']' := by
          simp only [renderItems, List.append_assoc, skipWs_render]
          exact head_render_ne _ _
        simp only [render, List.cons_append, List.append_assoc, List.nil_append]
        simp [parseValue, skipWs, isWs, isDigit, hne, hrec]
  | .obj fields, fuel, rest, hf, _ => by
    cases fuel with
    | zero => simp [render] at hf
    | succ f =>
      by_cases hi : fields = []
      · subst hi
        simp [render, renderFields, parseValue, skipWs, isWs, isDigit]
      · have hrec := parseFields_render fields f rest hi (by
          simp only [render, List.length_cons, List.length_append, List.length_nil] at hf
          omega)
        obtain ⟨⟨k, v⟩, fs, rfl⟩ := List.exists_cons_of_ne_nil hi
        have hne : (skipWs (renderFields ((k, v) :: fs) ++ '}' :: rest)).head? ≠ some '}' := by
          simp [renderFields, skipWs, isWs]
        simp only [render, List.cons_append, List.append_assoc, List.nil_append]
        simp [parseValue, skipWs, isWs, isDigit, hne, hrec]
theorem parseItems_render : ∀ (l : List Json) (fuel : Nat) (rest : List Char),
    l ≠ [] → (renderItems l).length + 1 ≤ fuel →
    parseItems fuel (renderItems l ++ ']' :: rest) = some (l, rest)
  | [], _, _, hl, _ => absurd rfl hl
  | v :: vs, fuel, rest, _, hf => by
    cases fuel with
    | zero => omega
    | succ f =>
      have hv := render_length_pos v
      by_cases hvs : vs = []
      · subst hvs
        have hlen : (render v).length ≤ f := by
          simp only [renderItems, List.isEmpty_nil, if_true, List.append_nil] at hf
          omega
        have h1 := parseValue_render v f (']' :: rest) hlen (by simp [okRest, isDigit])
        simp [renderItems, parseItems, h1, skipWs, isWs]
      · rw [renderItems_cons v vs hvs] at hf ⊢
        simp only [List.length_append, List.length_cons] at hf
        have h1 := parseValue_render v f (',' :: (renderItems vs ++ ']' :: rest)) (by omega)
          (by simp [okRest, isDigit])
        have h2 := parseItems_render vs f rest hvs (by omega)
        simp [parseItems, h1, h2, skipWs, isWs]
theorem parseFields_render : ∀ (l : List (String × Json)) (fuel : Nat) (rest : List Char),
    l ≠ [] → (renderFields l).length + 1 ≤ fuel →
    parseFields fuel (renderFields l ++ '}' :: rest) = some (l, rest)
  | [], _, _, hl, _ => absurd rfl hl
  | (k, v) :: fs, fuel, rest, _, hf => by
    cases fuel with
    | zero => omega
    | succ f =>
      have hv := render_length_pos v
      by_cases hfs : fs = []
      · subst hfs
        have hlen : (render v).length ≤ f := by
          simp only [renderFields, List.isEmpty_nil, if_true, List.append_nil, List.length_cons,
            List.length_append] at hf
          omega
        have h1 := parseValue_render v f ('}' :: rest) hlen (by simp [okRest, isDigit])
        simp [renderFields, parseFields, unescape_escape, h1, skipWs, isWs,
          String.ofList_toList]
      · rw [renderFields_cons k v fs hfs] at hf ⊢
        simp only [List.length_append, List.length_cons] at hf
        have h1 := parseValue_render v f (',' :: (renderFields fs ++ '}' :: rest)) (by omega)
          (by simp [okRest, isDigit])
        have h2 := parseFields_render fs f rest hfs (by omega)
        simp [parseFields, unescape_escape, h1, h2, skipWs, isWs, String.ofList_toList]
end

theorem parse_render (j : Json) : parse (render j) = some j := by
  have h := parseValue_render j ((render j).length + 1) [] (by omega) trivial
  simp only [List.append_nil] at h
  simp [parse, h, skipWs]

theorem parseSlot_renderSlot (s : StorageSlot) (hi : s.index < 2 ^ 256) (ht : WFAbi s.typ) :
    parseSlot (renderSlot s) = some s := by
  simp [parseSlot, renderSlot, parse_render, decodeSlot_encodeSlot s hi ht]

theorem render_injective {a b : Json} : render a = render b → a = b := by
  intro h
  have ha := parse_render a
  rw [h, parse_render b] at ha
  exact (Option.some.inj ha).symm

/-- `Json` has no decidable equality; a parse result can still be pinned down by evaluating
`render` on it (the kernel does the evaluation) and using injectivity of `render`. -/
theorem parse_eq_of_map_render (t : List Char) (j : Json)
    (h : (parse t).map render = some (render j)) : parse t = some j := by
  cases hp : parse t with
  | none => rw [hp] at h; simp at h
  | some j' =>
    rw [hp] at h
    simp only [Option.map_some, Option.some.injEq] at h
    rw [render_injective h]

/-! ### Non-vacuity (closed instances, evaluated by the kernel)

A string literal is first turned into its list of characters by `String.toList_ofList`;
evaluating `toList` on it would decode UTF-8 bytes, at many times the cost of the parser. -/

/-- Quote, backslash, the five named control escapes, `\u00XX` (lower-case hex), and what is
left alone: U+007F, `/`, non-ASCII. -/
example : escape "\"\\\x08\x0c\n\r\t\x00\x01\x1f\x7f/é€😀".toList =
    "\\\"\\\\\\b\\f\\n\\r\\t\\u0000\\u0001\\u001f\x7f/é€😀".toList := by
  rw [String.toList_ofList, String.toList_ofList]; decide +kernel

example : parseStrBody "\\\"\\\\\\b\\f\\n\\r\\t\\u0000\\u0001\\u001f\x7f/é€😀\" tail".toList =
    some ("\"\\\x08\x0c\n\r\t\x00\x01\x1f\x7f/é€😀".toList, " tail".toList) := by
  rw [String.toList_ofList, String.toList_ofList, String.toList_ofList]; decide +kernel

/-- The parser also reads escapes the printer never produces: `\/`, upper-case hex, non-control
`\uXXXX`; surrogates, unknown escapes and raw control characters are rejected. -/
example : parseStrBody "\\/\\u00E9\\u20ac\"".toList = some ("/é€".toList, []) := by
  rw [String.toList_ofList, String.toList_ofList]; decide +kernel
example : parseStrBody "\\ud800\"".toList = none := by rw [String.toList_ofList]; decide +kernel
example : parseStrBody "\\x\"".toList = none := by rw [String.toList_ofList]; decide +kernel
example : parseStrBody "a\nb\"".toList = none := by rw [String.toList_ofList]; decide +kernel
example : parseStrBody "abc".toList = none := by rw [String.toList_ofList]; decide +kernel

def exJson : Json := .obj [("a\"b", .arr [.num 0, .str "x\n\u0001\\é"])]
def exText : List Char := "{\"a\\\"b\":[0,\"x\\n\\u0001\\\\é\"]}".toList

theorem render_exJson : render exJson = exText := by
  unfold exText; rw [String.toList_ofList]; decide +kernel

example : render exJson = exText := render_exJson
/-- `parse` evaluated on the text (not obtained from `parse_render`). -/
example : (parse exText).map render = some exText := by
  unfold exText; rw [String.toList_ofList]; decide +kernel
example : parse exText = some exJson :=
  parse_eq_of_map_render _ _ (by unfold exText; rw [String.toList_ofList]; decide +kernel)
/-- The same value with whitespace between tokens and the alternative escapes. -/
example : parse " {\t\"a\\u0022b\" :\n[ 0 , \"x\\u000A\\u0001\\u005c\\u00E9\" ]\r\n} ".toList = some exJson :=
  parse_eq_of_map_render _ _ (by rw [String.toList_ofList]; decide +kernel)
example : parse exText = some exJson := render_exJson ▸ parse_render exJson

/-- Numbers: big naturals survive; leading zeros, signs, fractions, exponents are rejected;
so are trailing commas, trailing garbage, booleans and empty input. -/
example : parse "[0,7,10,340282366920938463463374607431768211456]".toList =
    some (.arr [.num 0, .num 7, .num 10, .num (2 ^ 128)]) :=
  parse_eq_of_map_render _ _ (by rw [String.toList_ofList]; decide +kernel)
example : (parse "01".toList).isNone = true := by rw [String.toList_ofList]; decide +kernel
example : (parse "-1".toList).isNone = true := by rw [String.toList_ofList]; decide +kernel
example : (parse "1.5".toList).isNone = true := by rw [String.toList_ofList]; decide +kernel
example : (parse "1e5".toList).isNone = true := by rw [String.toList_ofList]; decide +kernel
example : (parse "[1,]".toList).isNone = true := by rw [String.toList_ofList]; decide +kernel
example : (parse "[1 2]".toList).isNone = true := by rw [String.toList_ofList]; decide +kernel
example : (parse "{\"a\":1,}".toList).isNone = true := by rw [String.toList_ofList]; decide +kernel
example : (parse "{\"a\" 1}".toList).isNone = true := by rw [String.toList_ofList]; decide +kernel
example : (parse "null x".toList).isNone = true := by rw [String.toList_ofList]; decide +kernel
example : (parse "true".toList).isNone = true := by rw [String.toList_ofList]; decide +kernel
example : (parse "".toList).isNone = true := by rw [String.toList_ofList]; decide +kernel
example : (parse "[[[[]]]".toList).isNone = true := by rw [String.toList_ofList]; decide +kernel
example : parse "[[[[]]]]".toList = some (.arr [.arr [.arr [.arr []]]]) :=
  parse_eq_of_map_render _ _ (by rw [String.toList_ofList]; decide +kernel)
example : parse " [ ] ".toList = some (.arr []) :=
  parse_eq_of_map_render _ _ (by rw [String.toList_ofList]; decide +kernel)
example : parse "{ }".toList = some (.obj []) :=
  parse_eq_of_map_render _ _ (by rw [String.toList_ofList]; decide +kernel)

/-- The side condition of `parseValue_render` is needed: a digit after a number is absorbed. -/
example : (parseValue 9 (render (.num 12) ++ ['3'])).map (fun p => (render p.1, p.2)) =
    some ("123".toList, []) := by decide +kernel

/-- Without escaping (the naive printer) a quote inside a string breaks the round trip. -/
example : (parse ('"' :: ("a\"b".toList ++ ['"']))).isNone = true := by
  rw [String.toList_ofList]; decide +kernel

/-- A storage slot whose type carries conflict descriptions with quotes, backslashes, control
characters and non-ASCII text. -/
def exSlotText : StorageSlot :=
  ⟨2 ^ 256 - 1, 31, .mapping .address (.struct [.mk 0 (.array (2 ^ 255)
    (.conflictedType ["say \"hi\"\n", "C:\\dir\t\u0001"] ["é€ / \u007f"])), .mk 8 .bool])⟩

example : parseSlot (renderSlot exSlotText) = some exSlotText :=
  parseSlot_renderSlot exSlotText (by decide) (by simp [exSlotText, WFAbi, WFElems])

example : renderSlot ⟨1, 0, .conflictedType ["a\"\\\n"] []⟩ =
    ("{\"index\":\"0x0000000000000000000000000000000000000000000000000000000000000001\"," ++
     "\"offset\":0,\"type\":{\"conflicted_type\":{\"conflicts\":[\"a\\\"\\\\\\n\"],\"reasons\":[]}}}").toList := by
  simp only [renderSlot, encodeSlot, encode, encStrs, List.map, render, renderFields, renderItems,
    String.toList_append]
  repeat rw [String.toList_ofList]
  decide +kernel

end SLE.JsonText
