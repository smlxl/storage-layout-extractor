/-
Round-trip proofs for the JSON model (`SLE/Model/Json.lean`): hex words, `decode ∘ encode`,
`decodeSlot ∘ encodeSlot`.  Core only.
-/
import SLE.Model.Json

namespace SLE.JsonModel

/-! ### Hex words -/

theorem hexVal_hexChar (d : Nat) (h : d < 16) : hexVal (hexChar d) = some d := by
  have key : ∀ i : Fin 16, hexVal (hexChar i.val) = some i.val := by decide +kernel
  exact key ⟨d, h⟩

theorem hexDigits_length (k n : Nat) : (hexDigits k n).length = k := by
  induction k generalizing n with
  | zero => rfl
  | succ k ih => simp [hexDigits, ih]

theorem toHex64_length (n : Nat) : (toHex64 n).length = 66 := by
  simp [toHex64, hexDigits_length]

theorem toHex64_prefix (n : Nat) : (toHex64 n).take 2 = ['0', 'x'] := by
  simp [toHex64]

theorem parseDigits_append (l r : List Char) (acc : Nat) :
    parseDigits (l ++ r) acc = (parseDigits l acc).bind (parseDigits r) := by
  induction l generalizing acc with
  | nil => rfl
  | cons c cs ih =>
    simp only [List.cons_append, parseDigits]
    cases hexVal c with
    | none => rfl
    | some d => exact ih _

theorem parseDigits_hexDigits (k n acc : Nat) :
    parseDigits (hexDigits k n) acc = some (acc * 16 ^ k + n % 16 ^ k) := by
  induction k generalizing n with
  | zero => simp [hexDigits, parseDigits, Nat.mod_one]
  | succ k ih =>
    have hd : n % 16 < 16 := Nat.mod_lt _ (by decide)
    simp only [hexDigits, parseDigits_append, ih, Option.bind_some, parseDigits,
      hexVal_hexChar _ hd]
    congr 1
    rw [Nat.pow_succ, Nat.mul_comm (16 ^ k) 16, Nat.mod_mul]
    simp only [Nat.add_mul, Nat.mul_assoc, Nat.mul_comm (16 ^ k) 16]
    omega

theorem parseHex_toHex64 (n : Nat) (h : n < 2 ^ 256) : parseHex (toHex64 n) = some n := by
  have h16 : (16 : Nat) ^ 64 = 2 ^ 256 := by decide
  have hne : hexDigits 64 n ≠ [] := by simp [hexDigits]
  simp only [toHex64, parseHex, hne, if_false, parseDigits_hexDigits, Nat.zero_mul,
    Nat.zero_add, h16, Nat.mod_eq_of_lt h, h, if_true]

/-! ### Well-formedness: every fixed array length fits 256 bits -/

mutual
def WFAbi : AbiType → Prop
  | .array n t => n < 2 ^ 256 ∧ WFAbi t
  | .dynArray t => WFAbi t
  | .mapping k v => WFAbi k ∧ WFAbi v
  | .struct es => WFElems es
  | _ => True
def WFElems : List StructElement → Prop
  | [] => True
  | .mk _ t :: r => WFAbi t ∧ WFElems r
end

/-! ### decode ∘ encode -/

theorem decOptNat_encOptNat (s : Option Nat) : decOptNat (encOptNat s) = some s := by
  cases s <;> rfl

theorem decStrs_map_str (l : List String) : decStrs (l.map Json.str) = some l := by
  induction l with
  | nil => rfl
  | cons s r ih => simp [decStrs, ih]

mutual
theorem decode_encode : ∀ (t : AbiType), WFAbi t → decode (encode t) = some t
  | .any, _ => by simp [encode, decode]
  | .number s, _ => by simp [encode, decode, decOptNat_encOptNat]
  | .uInt s, _ => by simp [encode, decode, decOptNat_encOptNat]
  | .int s, _ => by simp [encode, decode, decOptNat_encOptNat]
  | .address, _ => by simp [encode, decode]
  | .selector, _ => by simp [encode, decode]
  | .function, _ => by simp [encode, decode]
  | .bool, _ => by simp [encode, decode]
  | .array n t, h => by
    have h' : n < 2 ^ 256 ∧ WFAbi t := by simpa [WFAbi] using h
    simp [encode, decode, String.toList_ofList, parseHex_toHex64 n h'.1, decode_encode t h'.2]
  | .bytes l, _ => by simp [encode, decode, decOptNat_encOptNat]
  | .bits l, _ => by simp [encode, decode, decOptNat_encOptNat]
  | .dynArray t, h => by
    have h' : WFAbi t := by simpa [WFAbi] using h
    simp [encode, decode, decode_encode t h']
  | .dynBytes, _ => by simp [encode, decode]
  | .mapping k v, h => by
    have h' : WFAbi k ∧ WFAbi v := by simpa [WFAbi] using h
    simp [encode, decode, decode_encode k h'.1, decode_encode v h'.2]
  | .struct es, h => by
    have h' : WFElems es := by simpa [WFAbi] using h
    simp [encode, decode, decodeElems_encodeElems es h']
  | .infiniteType, _ => by simp [encode, decode]
  | .conflictedType c r, _ => by simp [encode, decode, encStrs, decStrs_map_str]
theorem decodeElems_encodeElems :
    ∀ (es : List StructElement), WFElems es → decodeElems (encodeElems es) = some es
  | [], _ => by simp [encodeElems, decodeElems]
  | .mk off t :: r, h => by
    have h' : WFAbi t ∧ WFElems r := by simpa [WFElems] using h
    simp [encodeElems, decodeElems, decode_encode t h'.1, decodeElems_encodeElems r h'.2]
end

/-! ### Storage slots -/

theorem decodeSlot_encodeSlot (s : StorageSlot) (hi : s.index < 2 ^ 256) (ht : WFAbi s.typ) :
    decodeSlot (encodeSlot s) = some s := by
  cases s with
  | mk i o t =>
    simp only at hi ht
    simp [encodeSlot, decodeSlot, String.toList_ofList, parseHex_toHex64 i hi, decode_encode t ht]

/-! ### Non-vacuity (closed instances) -/

/-- A deep type using a conflict payload, nested struct, 256-bit-boundary array and a mapping. -/
def exTyp : AbiType :=
  .mapping .address
    (.struct [.mk 0 (.array (2 ^ 255) (.conflictedType ["a"] ["b"])), .mk 8 .bool])

def exSlot : StorageSlot := ⟨2 ^ 256 - 1, 255, exTyp⟩

example : WFAbi exTyp := by simp [exTyp, WFAbi, WFElems]

example : parseHex (toHex64 (2 ^ 256 - 1)) = some (2 ^ 256 - 1) := by decide +kernel
example : parseHex (toHex64 0) = some 0 := by decide +kernel
-- `String.toList_ofList` turns the literal into its list of characters; evaluating `toList` on
-- it would decode UTF-8 bytes.
example : toHex64 255 = "0x00000000000000000000000000000000000000000000000000000000000000ff".toList := by
  rw [String.toList_ofList]; decide +kernel
/-- The bound is needed: `2^256` does not survive (it wraps to 64 zero digits). -/
example : parseHex (toHex64 (2 ^ 256)) = some 0 := by decide +kernel

-- `simp` compares the tag strings as literals; the hexadecimal size is left to evaluation.
example : decode (encode exTyp) = some exTyp := by
  simp [exTyp, encode, encodeElems, encStrs, decode, decodeElems, decStrs]; rfl
-- `exSlot` itself stays folded, so that `simp` does not do arithmetic on its index.
example : decodeSlot (encodeSlot exSlot) = some exSlot := by
  simp [encodeSlot, decodeSlot, show exSlot.typ = exTyp from rfl, exTyp, encode, encodeElems,
    encStrs, decode, decodeElems, decStrs]
  rfl
example : decodeSlot (encodeSlot exSlot) = some exSlot :=
  decodeSlot_encodeSlot exSlot (by decide) (by simp [exSlot, exTyp, WFAbi, WFElems])

example : decode (encode (.array (2 ^ 256 - 1) (.dynArray (.number (some 256))))) =
    some (.array (2 ^ 256 - 1) (.dynArray (.number (some 256)))) := by
  simp [encode, encOptNat, decode, decOptNat]; rfl
/-- Rejections: the decoder is not the constant function. -/
example : decode (.str "nonsense") = none := by simp [decode]
example : decode (.obj [("array", .obj [("size", .str "0x"), ("type", .str "any")])]) = none := by
  simp [decode, parseHex]

end SLE.JsonModel
